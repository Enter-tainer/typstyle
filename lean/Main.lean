import TypstyleModel.Model.Printer.Knot
import TypstyleModel.Model.Cert
import TypstyleModel.Model.Range
import TypstyleModel.Model.Cli
import TypstyleModel.Model.Fragment
/-! Line-protocol driver: evaluates the model's executable definitions on the cases the Rust
harness produced from the implementation, and reports where they differ.  One `R …` line per case. -/
open Pretty Typstyle

/-- Why a tree is outside the covered fragment: the kind of an innermost node that is not in it. -/
partial def fragBlocker (n : ANode) : String :=
  if inFrag n || inFragM n then "-" else
  match n.children.find? (fun c => !(inFrag c || inFragM c)) with
  | some c => fragBlocker c
  | none => n.kind.name

def hexVal (c : Char) : Nat :=
  if '0' ≤ c ∧ c ≤ '9' then c.toNat - '0'.toNat
  else if 'a' ≤ c ∧ c ≤ 'f' then c.toNat - 'a'.toNat + 10 else 0

def unhex (s : String) : String :=
  if s == "-" then "" else
  let rec go : List Char → ByteArray → ByteArray
    | a :: b :: r, acc => go r (acc.push (UInt8.ofNat (hexVal a * 16 + hexVal b)))
    | _, acc => acc
  match String.fromUTF8? (go s.toList ByteArray.empty) with
  | some s => s
  | none => "<bad>"

def hexDigit (n : Nat) : Char := if n < 10 then Char.ofNat (48 + n) else Char.ofNat (87 + n)
def hex (s : String) : String :=
  if s.isEmpty then "-" else
  String.ofList (s.toUTF8.toList.flatMap fun b => [hexDigit (b.toNat / 16), hexDigit (b.toNat % 16)])

partial def parseDoc : List String → Option (Doc × List String)
  | "N" :: r => some (.nil, r)
  | "H" :: r => some (.hardline, r)
  | "T" :: n :: h :: r => some (.text (unhex h) n.toNat! .tok, r)
  | "A" :: r => do let (a, r) ← parseDoc r; let (b, r) ← parseDoc r; pure (.append a b, r)
  | "F" :: r => do let (a, r) ← parseDoc r; let (b, r) ← parseDoc r; pure (.flatAlt a b, r)
  | "G" :: r => do let (a, r) ← parseDoc r; pure (.group a, r)
  | "L" :: r => do let (a, r) ← parseDoc r; pure (.align a, r)
  | "S" :: n :: r => do let (a, r) ← parseDoc r; pure (.nest n.toInt! a, r)
  | _ => none

partial def parseKids (n : Nat) (r : List String) (acc : List Node) : Option (List Node × List String) :=
  if n == 0 then some (acc.reverse, r) else
  match parseTree r with
  | some (c, r) => parseKids (n-1) r (c :: acc)
  | none => none
where
  parseTree : List String → Option (Node × List String)
    | "L" :: k :: h :: r => do let k ← Kind.ofString k; pure (.leaf k (unhex h), r)
    | "I" :: k :: n :: r => do let k ← Kind.ofString k; let (cs, r) ← parseKids n.toNat! r []; pure (.inner k cs, r)
    | _ => none

partial def parseEKids (n : Nat) (r : List String) (acc : List ENode) : Option (List ENode × List String) :=
  if n == 0 then some (acc.reverse, r) else
  match parseETree r with
  | some (c, r) => parseEKids (n-1) r (c :: acc)
  | none => none
where
  parseETree : List String → Option (ENode × List String)
    | "L" :: k :: h :: r => do let k ← Kind.ofString k; pure (.leaf k (unhex h) false, r)
    | "X" :: h :: r => pure (.leaf .error_ (unhex h) true, r)
    | "I" :: k :: n :: r => do let k ← Kind.ofString k; let (cs, r) ← parseEKids n.toNat! r []; pure (.inner k cs false, r)
    | "E" :: k :: n :: r => do let k ← Kind.ofString k; let (cs, r) ← parseEKids n.toNat! r []; pure (.inner k cs true, r)
    | _ => none

/-- Display widths of non-ASCII atoms are not modelled (`unicode-width`): they are read off the
implementation's document. -/
partial def widthTable : Doc → List (String × Nat) → List (String × Nat)
  | .text s l _, acc => if isAscii s then acc else (s, l) :: acc
  | .append a b, acc => widthTable b (widthTable a acc)
  | .group a, acc => widthTable a acc
  | .flatAlt a b, acc => widthTable b (widthTable a acc)
  | .nest _ a, acc => widthTable a acc
  | .align a, acc => widthTable a acc
  | _, acc => acc

def wdOf (tbl : List (String × Nat)) (s : String) : Nat :=
  match tbl.find? (·.1 == s) with
  | some p => p.2
  | none => s.length

partial def firstDiff : Doc → Doc → Option String
  | .append a b, .append c d => (firstDiff a c).orElse fun _ => firstDiff b d
  | .group a, .group b => firstDiff a b
  | .flatAlt a b, .flatAlt c d => (firstDiff a c).orElse fun _ => firstDiff b d
  | .nest n a, .nest m b => if n != m then some s!"nest {n} vs {m}" else firstDiff a b
  | .align a, .align b => firstDiff a b
  | x, y => if x == y then none else some s!"MODEL: {(toString (repr x)).take 200} RUST: {(toString (repr y)).take 200}"

namespace Typstyle.Cli

partial def parseEntry : List String → Option (Entry × List String)
  | "f" :: h :: r => some (.file (.text (unhex h)) false, r)
  | "b" :: r => some (.file .binary false, r)
  | "l" :: r => some (.symlink, r)
  | "d" :: n :: r => do
    let mut es : List (String × Entry) := []
    let mut rest := r
    for _ in List.range n.toNat! do
      match rest with
      | nm :: r' =>
        let (e, r'') ← parseEntry r'
        es := es ++ [(unhex nm, e)]
        rest := r''
      | [] => none
    pure (.dir es, rest)
  | _ => none

def parsePath (h : String) : Path := ((unhex h).splitOn "/").filter (· ≠ "")

partial def serEntry : Entry → String
  | .file (.text s) t => s!"f {hex s} {if t then 1 else 0}"
  | .file .binary t => s!"b {if t then 1 else 0}"
  | .symlink => "l"
  | .dir es => s!"d {es.length}" ++ String.join (es.map fun (n, e) => s!" {hex n} {serEntry e}")

def takeN {α} (n : Nat) (l : List α) : List α × List α := (l.take n, l.drop n)

/-- `CLI <id> A <inplace> <check> <quiet> <verbose> <column> <tab> <reorder> <cmd…> T <tree…> LIB <n> (<content> <result|!>)*` -/
def evalLine (toks : List String) : String :=
  match toks with
  | id :: "A" :: ip :: ck :: q :: v :: col :: tab :: ro :: rest =>
    let b (x : String) := x == "1"
    let cmdRes : Option (Cmd × List String) :=
      match rest with
      | "F" :: n :: r => let (ps, r') := takeN n.toNat! r; some (.files (ps.map parsePath), r')
      | "S" :: h :: r => some (.stdin (unhex h), r)
      | "D" :: "0" :: r => some (.formatAll none, r)
      | "D" :: "1" :: h :: r => some (.formatAll (some (parsePath h)), r)
      | _ => none
    match cmdRes with
    | some (cmd, "T" :: r) =>
      match parseEntry r with
      | some (w, "LIB" :: _n :: tbl) =>
        let rec pairs : List String → List (String × Option String)
          | c :: res :: r => (unhex c, if res == "!" then none else some (unhex res)) :: pairs r
          | _ => []
        let table := pairs tbl
        let lib : Lib := fun _ c => match table.find? (·.1 == c) with
          | some (_, r) => r
          | none => some "<<missing from the library table>>"
        let a : Args := { cmd := cmd, inplace := b ip, check := b ck, quiet := b q, verbose := b v,
                          style := { column := col.toNat!, tab := tab.toNat!, reorder := b ro } }
        let r := run lib a w
        let outs := r.evs.filterMap fun | .out s => some s | _ => none
        let infos := r.evs.filterMap fun | .info s => some s | _ => none
        let warns := (r.evs.filter (· == .warn)).length
        let errs := (r.evs.filter (· == .error)).length
        let infos := infos.toArray.qsort (· < ·) |>.toList
        s!"R cli {id} exit={r.exit} out={hex (String.join outs)} info={hex ("\n".intercalate infos)} warns={warns} errors={errs} tree={hex (serEntry r.world)}"
      | _ => s!"R cli {id} error=tree-parse"
    | _ => s!"R cli {id} error=cmd-parse"
  | _ => "R cli ? error=line-parse"

end Typstyle.Cli

structure S where
  gen : String := ""
  idx : String := ""
  cfg : Config := {}
  src : String := ""
  tree : Option Node := none
  etree : Option ENode := none
  cnt : Option Nat := none
  out : Option String := none
  doc1 : Option Doc := none
  xshape : String := ""
  pairCap : Nat := 400

def oneLine (s : String) : String := ((s.replace "\n" "⏎").take 400).toString

/-- Compare renderings of two documents at every width in `[0, cap]` and at the saturation bound. -/
def sweepDiffs (m d : Doc) (cap : Nat) : List (Nat × String × String) := Id.run do
  let L := max m.bound d.bound
  let top := min L cap
  let mut acc : List (Nat × String × String) := []
  let mut n : Nat := 0
  for w in List.range (top + 1) ++ (if L > cap then [L] else []) do
    let a := strip (pretty w m)
    let b := strip (pretty w d)
    if a != b && n < 6 then
      acc := (w, a, b) :: acc
      n := n + 1
  return acc.reverse

def evalCase (s : S) (d : Doc) : IO Unit := do
  let some t := s.tree | IO.println s!"R {s.gen} {s.idx} error=no-tree"
  let tbl := widthTable d []
  let mut fields : List String := []
  let mut extra : List String := []
  -- renderer + strip against the implementation's output
  match s.out with
  | some o =>
    let r := strip (pretty s.cfg.maxWidth d)
    if r == o then fields := "render=eq" :: fields
    else
      fields := "render=diff" :: fields
      extra := s!"RENDERDIFF model={oneLine r} impl={oneLine o}" :: extra
  | none => pure ()
  -- certificates on the implementation's document (lc: below, with the model's ghost tags when
  -- the two documents are syntactically equal)
  match s.doc1 with
  | some d1 =>
    fields := (if scale s.cfg.tab d1 == d then "scale=eq" else "scale=diff") :: fields
  | none => pure ()
  -- printer model
  match printTwin { cfg := s.cfg.toP, wd := wdOf tbl } t with
  | .ok (tw, calls) =>
    let m := tw.fam s.cfg.tab
    -- by-construction certificates (C01 token text, C06 comment text)
    if s.cfg.reorder then
      if tokensCertifiedR s.cfg.toP t tw then fields := "tok=ok" :: fields
      else
        fields := "tok=viol" :: fields
        extra := s!"TOKDIFF (reorder) good={tw.good} doc={oneLine tw.toks} tree={oneLine (specToks (reorderTree s.cfg.toP (prepare t)))}" :: extra
    else if tokensCertified t tw then fields := "tok=ok" :: fields
    else
      fields := "tok=viol" :: fields
      extra := s!"TOKDIFF good={tw.good} doc={oneLine tw.toks} tree={oneLine (specToks (prepare t))}" :: extra
    if commentsCertified t tw then fields := "cmt=ok" :: fields
    else
      fields := "cmt=viol" :: fields
      extra := s!"CMTDIFF good={tw.good} doc={oneLine tw.cmts} tree={oneLine (specCmts (prepare t))}" :: extra
    if verbatimCertified t tw then fields := "verb=ok" :: fields
    else
      fields := "verb=viol" :: fields
      extra := s!"VERBDIFF good={tw.good} doc={oneLine tw.verbs} tree={oneLine (specVerb (prepare t))}" :: extra
    if proseCertified t tw then fields := "prose=ok" :: fields
    else
      fields := "prose=viol" :: fields
      extra := s!"PROSEDIFF good={tw.good} doc={oneLine tw.prose} tree={oneLine (specProse (prepare t))}" :: extra
    if s.cfg.reorder then
      if literalsCertifiedR s.cfg.toP t tw then fields := "lit=ok" :: fields
      else
        fields := "lit=viol" :: fields
        extra := s!"LITDIFF (reorder) good={tw.good} doc={oneLine tw.lits} tree={oneLine (specLit (reorderTree s.cfg.toP (prepare t)))}" :: extra
    else if literalsCertified t tw then fields := "lit=ok" :: fields
    else
      fields := "lit=viol" :: fields
      extra := s!"LITDIFF good={tw.good} doc={oneLine tw.lits} tree={oneLine (specLit (prepare t))}" :: extra
    -- route M: a document of the covered fragment is certified by theorem (routeM_document); the
    -- evaluated certificates must agree
    let pt := prepare t
    if pt.kind == .markup && inFrag pt then
      let all := tokensCertified t tw && commentsCertified t tw && verbatimCertified t tw && proseCertified t tw && literalsCertified t tw
      fields := (if all then "rm=in" else "rm=viol") :: fields
    else fields := s!"rmwhy={fragBlocker pt}" :: "rm=out" :: fields
    if let some c := s.cnt then
      fields := (if c == calls then "count=eq" else s!"count=diff:{calls}:{c}") :: fields
    let me := m.erase
    fields := (if (if me == d then lcSafe m else lcSafe d) then "lc=ok" else "lc=viol") :: fields
    if me == d then fields := "doc=eq" :: fields
    else
      let diffs := sweepDiffs me d s.pairCap
      if diffs.isEmpty then fields := "doc=rendereq" :: fields
      else
        fields := "doc=diff" :: fields
        extra := s!"DOCDIFF {oneLine ((firstDiff me d).getD "?")}" :: extra
        for (w, a, b) in diffs do
          extra := s!"PAIR {s.gen} {s.idx} {w} {hex a} {hex b}" :: extra
    fields := (if lcSafe m then "mlc=ok" else "mlc=viol") :: fields
  | .error e =>
    fields := (if lcSafe d then "lc=ok" else "lc=viol") :: fields
    fields := s!"reject={(toString (repr e)).replace " " "_" |>.replace "\n" "_"}" :: fields
  if s.xshape != "" then fields := s!"xshape={s.xshape}" :: fields
  IO.println s!"R {s.gen} {s.idx} {" ".intercalate fields.reverse}"
  for x in extra.reverse do IO.println x

def evalRange (s : S) (a b : Nat) (res : Option (Nat × Nat × String)) : IO Unit := do
  let some t := s.etree | IO.println s!"R {s.gen} {s.idx} error=no-tree"
  let m := formatRange s.cfg (fun x => x.length) s.src t a b
  -- by-construction certificate of the replacement document (C13 with C01/C06/C07/C08/C10)
  let cert := match formatRangeDoc s.cfg (fun x => x.length) s.src t a b with
    | .ok node _ _ d _ =>
      let c := rangeCertified s.cfg.reorder node d
      -- route M: is the covering node an expression of the fragment for which certification is a theorem
      -- (C13_fragment_replacement_is_certified)?  Then the certificate cannot fail.
      let len := s.src.utf8ByteSize
      let tr := trimRange s.src.toList (min a len) (min b len)
      let cmode := match cover tr.1 (min tr.2 len) t 0 .markup with
        | some (_, _, mode) => some mode
        | none => none
      -- C13_fragment_replacement_is_certified (non-math cover) / C13_fragment_math_replacement_is_certified (math cover)
      -- … / C13_fragment_markup_replacement_is_certified (a markup body)
      let frag := (match cmode with
        | some mode =>
          if isExpr node then (if mode == LMode.math then inFragM node else inFrag node)
          else node.kind == Kind.markup && mode != LMode.math && inFrag node
        | none => false)
      (if c then "rcert=ok" else "rcert=viol") ++ (if frag then (if c then " rm=in" else " rm=viol") else " rm=out")
    | _ => "rcert=na"
  match m, res with
  | .refused, none => IO.println s!"R {s.gen} {s.idx} range=eq"
  | .ok rs re txt, some (rs', re', txt') =>
    if rs == rs' && re == re' then
      if txt == txt' || !(isAscii txt') then IO.println s!"R {s.gen} {s.idx} range=eq text={if txt == txt' then "eq" else "skip-nonascii"} {cert}"
      else IO.println s!"R {s.gen} {s.idx} range=eq text=diff {cert}\nRANGETEXT model={oneLine txt} impl={oneLine txt'}"
    else IO.println s!"R {s.gen} {s.idx} range=diff model={rs}..{re} impl={rs'}..{re'}"
  | .rejected e, _ => IO.println s!"R {s.gen} {s.idx} reject={(e.replace " " "_").replace "\n" "_"}"
  | .refused, some (rs', re', _) => IO.println s!"R {s.gen} {s.idx} range=diff model=refused impl={rs'}..{re'}"
  | .ok rs re _, none => IO.println s!"R {s.gen} {s.idx} range=diff model={rs}..{re} impl=refused"

partial def loop (h : IO.FS.Stream) (s : S) : IO Unit := do
  let line ← h.getLine
  if line.isEmpty then return
  let toks := (line.trimAscii.toString.splitOn " ").filter (· ≠ "")
  match toks with
  | ["CASE", g, i] => loop h { gen := g, idx := i, pairCap := s.pairCap }
  | ["CFG", tab, w, bl, ro] =>
    loop h { s with cfg := { tab := tab.toNat!, maxWidth := w.toNat!, blankUpper := bl.toNat!, reorder := ro == "1" } }
  | ["SRC", hx] => loop h { s with src := unhex hx }
  | ["XSHAPE", id] => loop h { s with xshape := id }
  | ["COUNT", c] => loop h { s with cnt := some c.toNat! }
  | ["OUT", hx] => loop h { s with out := some (unhex hx) }
  | "TREE" :: r =>
    match parseKids 1 r [] with
    | some ([t], _) => loop h { s with tree := some t }
    | _ => IO.println s!"R {s.gen} {s.idx} error=tree-parse"; loop h { s with tree := none }
  | "ETREE" :: r =>
    match parseEKids 1 r [] with
    | some ([t], _) => loop h { s with etree := some t }
    | _ => IO.println s!"R {s.gen} {s.idx} error=tree-parse"; loop h { s with etree := none }
  | "DOC1" :: r =>
    match parseDoc r with
    | some (d, _) => loop h { s with doc1 := some d }
    | none => loop h s
  | "DOC" :: r =>
    match parseDoc r with
    | some (d, _) => evalCase s d; loop h s
    | none => IO.println s!"R {s.gen} {s.idx} error=doc-parse"; loop h s
  | ["RANGE", a, b, "refused"] => evalRange s a.toNat! b.toNat! none; loop h s
  | ["RANGE", a, b, rs, re, hx] => evalRange s a.toNat! b.toNat! (some (rs.toNat!, re.toNat!, unhex hx)); loop h s
  | "WS" :: r =>
    let impl := r.map String.toNat!
    let model := (List.range 0x110000).filter fun n => (n < 0xD800 || n > 0xDFFF) && isWs (Char.ofNat n)
    IO.println s!"R ws 0 wsset={if impl == model then "eq" else "diff"} n={model.length}"
    loop h s
  | "NL" :: r =>
    let impl := r.map String.toNat!
    let model := (List.range 0x110000).filter fun n => (n < 0xD800 || n > 0xDFFF) && isNewlineChar (Char.ofNat n)
    IO.println s!"R nl 0 nlset={if impl == model then "eq" else "diff"} n={model.length}"
    loop h s
  | ["STRIP", a, b] =>
    let m := strip (unhex a)
    IO.println s!"R strip {a} strip={if m == unhex b then "eq" else "diff"}"
    loop h s
  | ["CW", w, v] =>
    IO.println s!"R cw {w} cw={if chainWidth w.toNat! == v.toNat! then "eq" else "diff"}"
    loop h s
  | "CLI" :: r =>
    IO.println (Cli.evalLine r)
    loop h s
  | _ => loop h s

def main : IO Unit := do
  loop (← IO.getStdin) {}
