import TypstyleModel.Proofs.EndToEnd
import TypstyleModel.Props.RouteM
/-! C07 — the `@typstyle off` escape hatch reproduces the next node verbatim (printer side:
marking and verbatim emission are theorems; "the text occurs in the output" additionally needs that
the atom reaches the output, which every layout guarantees (R1), and the post-pass (S5), and is
searched on the implementation). -/
namespace Typstyle
open Pretty

/-- T7.1a: after a directive comment, white space and `#` keep the directive pending … -/
theorem C07_pending_skips_space_and_hash (cm : Bool) (y : Node) (rest : List Node)
    (hy : y.kind = .space ∨ y.kind = .hash) (hnc : isCommentKind y.kind = false) :
    annotateKids false true cm (y :: rest) =
      (annotate false y :: (annotateKids false true cm rest).1, (annotateKids false true cm rest).2) := by
  rw [annotateKids]
  rcases hy with h | h <;> simp [h, h ▸ hnc]

/-- T7.1b: … and the first following sibling that is neither is marked format-disabled (and the
directive is consumed: the siblings after it are annotated normally). -/
theorem C07_pending_marks_next_node (cm : Bool) (x : Node) (rest : List Node)
    (hx : x.kind ≠ .space ∧ x.kind ≠ .hash) (hnc : isCommentKind x.kind = false) :
    annotateKids false true cm (x :: rest) =
      ((annotate true x).setDisabled :: (annotateKids false false cm rest).1, (annotateKids false false cm rest).2) := by
  rw [annotateKids]
  simp [hnc, hx.1, hx.2]

/-- T7.1c: a comment containing `@typstyle off` is itself kept verbatim and makes the directive pending. -/
theorem C07_directive_comment_sets_pending (dn cm : Bool) (c : Node) (rest : List Node)
    (hc : isCommentKind c.kind = true) (hoff : containsOff c.text = true) :
    annotateKids false dn cm (c :: rest) =
      ((annotate true c).setDisabled :: (annotateKids false true true rest).1, (annotateKids false true true rest).2) := by
  rw [annotateKids]
  simp [hc, hoff]

theorem setDisabled_disabled (n : ANode) : n.setDisabled.attrs.disabled = true := by
  cases n <;> rfl

/-- Numbering the nodes does not touch the marks. -/
theorem C07_number_keeps_marks (n : ANode) (k : Nat) : (number n k).1.attrs.disabled = n.attrs.disabled := by
  cases n <;> simp [number, ANode.attrs]

/-- T7.2 (expressions): a marked expression is not converted: the entry point returns one verbatim
atom holding the node's source text, whatever the context. -/
theorem C07_disabled_expr_is_verbatim (e : Env) (r : Rec) (ctx : Ctx) (n : ANode) (h : n.attrs.disabled = true) :
    convExpr e r ctx n = (do enter .expr n.attrs.id; pure (e.verbNode n)) := by
  simp [convExpr, h]

/-- T7.2 (equation bodies). -/
theorem C07_disabled_math_is_verbatim (e : Env) (r : Rec) (ctx : Ctx) (n : ANode) (h : n.attrs.disabled = true) :
    convMath e r ctx n = (do enter .math n.attrs.id; pure (e.verb n.intoText)) := by
  simp [convMath, h]

/-- T7.2 (patterns). -/
theorem C07_disabled_pattern_is_verbatim (e : Env) (r : Rec) (es ps : Ctx → ANode → M Twin.Doc) (ctx : Ctx) (n : ANode)
    (h : n.attrs.disabled = true) :
    convPattern e r es ps ctx n = (do enter .pattern n.attrs.id; pure (e.verbNode n)) := by
  simp [convPattern, h]

/-- T7.2 (code bodies): a code block whose body is marked is emitted verbatim as a whole. -/
theorem C07_disabled_code_body_is_verbatim (e : Env) (r : Rec) (ctx : Ctx) (n body : ANode)
    (hb : n.children.find? (·.kind == .code) = some body) (h : body.attrs.disabled = true) :
    convCodeBlock e r ctx n = pure (e.verb n.intoText) := by
  simp [convCodeBlock, hb, h]

/-- `verbNode` is one text atom holding the node's whole source text (the tag only records the
stream a leaf's text feeds). -/
theorem C07_verbNode_is_source_text (e : Env) (n : ANode) :
    ∃ tag, e.verbNode n = Twin.mkText e.wd tag n.intoText := by
  unfold Env.verbNode
  split
  · exact ⟨_, rfl⟩
  · exact ⟨.verbatim, rfl⟩

/-- The verbatim document is a single text atom carrying exactly the source text — at every indent
unit, in every layout (so at every width): nothing inside it can be re-spaced, re-broken or re-indented. -/
theorem C07_verbatim_is_one_atom (e : Env) (s : String) (hs : s.isEmpty = false) (u : Nat) (m : Mode) (xs : List Atom)
    (h : Lay m ((e.verb s).fam u) xs) : xs = [.txt s .verbatim] :=
  lay_mkText hs h

/-- T7.3 (verbatim regions are preserved, by construction): the printer's documents carry the text
of the atoms they copy for `@typstyle off` nodes — every character, blanks and line breaks included —
through every builder operation.  If the family printed for a tree passes the comparison with the
tree's own verbatim text (`verbatimCertified`: evaluated on every case of the correspondence run,
field `verb`), then at **every** width and indent unit the rendered layout contains the source text
of every marked node, complete, unchanged and in order (each as one atom: `C07_verbatim_is_one_atom`). -/
theorem C07_verbatim_preserved (root : Node) (d : Twin.Doc) (h : verbatimCertified root d = true) (u w : Nat) :
    verbText (best w 0 [⟨0, .brk, d.fam u⟩]) = (specVerb (prepare root)).toList :=
  stream_certified (c := .verb) h u .brk _ (pretty_lay w _)

theorem C07_verbatim_preserved_all_layouts (root : Node) (d : Twin.Doc) (h : verbatimCertified root d = true)
    (u : Nat) (m : Mode) (xs : List Atom) (hl : Lay m (d.fam u) xs) :
    verbText xs = (specVerb (prepare root)).toList :=
  stream_certified (c := .verb) h u m xs hl

/-- T7.4 (on the rendered text): the source text of a marked node — one verbatim atom in every
layout (`C07_verbatim_is_one_atom`) — occurs character for character, blanks and line breaks
included, in the text the renderer produces at any width.  (The post-pass then removes blanks at line
ends only: `C11`/`C10_strip_only_removes_line_end_blanks`; that it does so inside a verbatim region
too is finding F4.) -/
theorem C07_verbatim_text_occurs_in_rendered_output (w : Nat) (d : Doc) (s : String)
    (h : Atom.txt s .verbatim ∈ best w 0 [⟨0, .brk, d⟩]) :
    s.toList <:+: (pretty w d).toList :=
  txt_infix_pretty w d s _ h

/-- T7.4 without a certificate (route M): for every expression tree of the covered fragment — with
`@typstyle off` marks on any of its nodes — the rendered layout contains the source text of every
marked node, character for character and in order, at every width and unit. -/
theorem C07_fragment_verbatim_preserved (e : Env) (fuel : Nat) (ctx : Ctx) (hctx : NM ctx) (n : ANode) (hx : isExpr n = true) (hq : inFrag n = true)
    (d : Twin.Doc) (k k' : St) (h : ((knot e fuel).expr ctx n).run k = .ok (d, k')) (u w : Nat) :
    verbText (best w 0 [⟨0, .brk, d.fam u⟩]) = (specVerb n).toList :=
  (routeM_expr e fuel ctx hctx n hx hq d k k' h u w).2.2.2.2

/-- A mark on a **paragraph break** is inert (route M): the children of a `Markup` node are split into
lines before any of them is converted, and every `Parbreak` becomes a line boundary there — whether it
carries the `@typstyle off` mark or not.  So for children that are paragraph breaks (marked or unmarked)
or nodes of the covered fragment, what is printed carries exactly what the children prescribe; in
particular no white space of a marked paragraph break is emitted as verbatim text. -/
theorem C07_mark_on_paragraph_break_is_inert (e : Env) (fuel : Nat) (ctx : Ctx) (cs : List ANode) (a : Attrs) (scope : Scope)
    (hok : ∀ x ∈ cs, (x.kind = .parbreak ∧ ANode.tokensAreLeaves x = true) ∨
      (inFrag x = true ∧ (x.kind = .space ∨ x.kind = .text ∨ isExpr x = true ∨ isCommentKind x.kind = true ∨ x.kind.isPlainToken = true))) :
    Post (convMarkup e (knot e fuel) ctx (.inner .markup cs a) scope) (fun d => Carries d (specAllL cs)) :=
  convMarkup_carries_parbreak e _ (knot_frag e fuel).1 ctx .markup cs a scope
    (fun x hx => (hok x hx).elim Or.inr (fun h => Or.inl ⟨inFrag_lex x h.1, fun _ => h.1, h.2⟩))

/-- The hypotheses are met by a paragraph with a marked paragraph break in it. -/
example : ∀ x ∈ [ANode.leaf .text "a" {}, ANode.leaf .parbreak "\n\n" { disabled := true }, ANode.leaf .text "b" {}],
    (x.kind = .parbreak ∧ ANode.tokensAreLeaves x = true) ∨
      (inFrag x = true ∧ (x.kind = .space ∨ x.kind = .text ∨ isExpr x = true ∨ isCommentKind x.kind = true ∨ x.kind.isPlainToken = true)) := by
  decide

end Typstyle
