import TypstyleModel.Proofs.EndToEnd
import TypstyleModel.Proofs.Prepare
import TypstyleModel.Proofs.ParenKept
import TypstyleModel.Props.RouteM
/-! C01 — formatting preserves the syntax tree (partial: printer side; the re-parse is an assumption). -/
namespace Typstyle
open Pretty

/-- T1.1 (R1/R2): whatever the width, the output is one of the consistent layouts of the document. -/
theorem C01_layout_sound (w : Nat) (d : Doc) : Lay .brk d (best w 0 [⟨0, .brk, d⟩]) := pretty_lay w d

/-- The post-pass neither adds, drops nor reorders any character that is not white space (per line). -/
theorem C01_strip_keeps_tokens (l : List Char) :
    (trimEndL l).filter (fun c => !isWs c) = l.filter (fun c => !isWs c) := trimEndL_filter l

/-- T1.2: a node whose kind is not an expression is never converted by the expression dispatch: it is
rejected explicitly (the model is self-checking: nothing is dropped silently). -/
theorem C01_non_expression_is_rejected (e : Env) (r : Rec) (ctx : Ctx) (n : ANode) (h : n.kind.isExpr = false)
    (hs : n.kind ≠ .space) :
    convExprImpl e r ctx n = reject (.shape s!"convert_expr on a node of kind {n.kind.name}") := by
  unfold convExprImpl
  generalize n.kind = k at h hs ⊢
  cases k
  all_goals try cases h            -- an expression kind: `h` is `true = false`
  case space => exact (hs rfl).elim
  all_goals rfl                    -- every other kind falls through to the last arm

/-- T1.4 (`is_paren_needed`): optional parentheses are only ever *added* around a body, never
removed from the source here; and they are added only around kinds that can span lines without them
being self-delimiting. -/
theorem C01_paren_not_added_around_self_delimiting (n : ANode)
    (h : n.kind = .parenthesized ∨ n.kind = .codeBlock ∨ n.kind = .contentBlock ∨ n.kind = .funcCall ∨
         n.kind = .array ∨ n.kind = .dict) : isParenNeeded n = false := by
  rcases h with h | h | h | h | h | h <;> simp [isParenNeeded, h]

/-- Each operator of a comparison chain is printed from its own tokens (repair F19): `not` followed
by `in` prints `not in`, a bare `in` prints `in`, whatever the outermost operator of the chain is. -/
theorem C01_not_in_from_own_tokens (e : Env) (c : ANode) (h : c.kind = .in_) (ht : c.text = "in") :
    binOpConv e true c = pure (false, some (e.syn "not in")) ∧
    binOpConv e false c = (do let d ← e.synLeaf c "in"; pure (false, some d)) := by
  constructor
  · simp [binOpConv, h, ht]
  · simp [binOpConv, h, binOpOfKind]

/-- T1.3 (tokens are preserved, by construction): the printer's documents carry, besides the
layout family, the text of their code tokens (everything except blanks and the delimiters and
separators `( ) { } , ; :` the formatter may add or drop); every builder operation maintains it, and
an alternative (`flatAlt`) is only admitted between documents with the same token text.  If the
family the printer produced for a tree passes the final comparison with the tree's own token text
(`tokensCertified`, evaluated by the correspondence run on every case; the printed document is at the
same time compared with the implementation's), then at **every** width and **every** indent unit
the rendered layout contains exactly the tree's code tokens, in order. -/
theorem C01_tokens_preserved (root : Node) (d : Twin.Doc) (h : tokensCertified root d = true) (u w : Nat) :
    tokText (best w 0 [⟨0, .brk, d.fam u⟩]) = (specToks (prepare root)).toList :=
  stream_certified (c := .tok) h u .brk _ (pretty_lay w _)

/-- … and so does every other consistent layout of the family (the renderer is free to choose). -/
theorem C01_tokens_preserved_all_layouts (root : Node) (d : Twin.Doc) (h : tokensCertified root d = true)
    (u : Nat) (m : Mode) (xs : List Atom) (hl : Lay m (d.fam u) xs) :
    tokText xs = (specToks (prepare root)).toList :=
  stream_certified (c := .tok) h u m xs hl

/-- T1.3r (with import reordering on): the same, with the items of every import statement in the
order `importOrder` gives them (`reorderTree`); with reordering off that tree is the tree itself
(`reorderTree_off`).  Certificate `tokensCertifiedR`, evaluated on every case run with the flag on. -/
theorem C01_tokens_preserved_reorder (cfg : PConfig) (root : Node) (d : Twin.Doc)
    (h : tokensCertifiedR cfg root d = true) (u w : Nat) :
    tokText (best w 0 [⟨0, .brk, d.fam u⟩]) = (specToks (reorderTree cfg (prepare root))).toList :=
  stream_certified (c := .tok) h u .brk _ (pretty_lay w _)

/-- For a tree without comments and without `@typstyle off` regions (whose Space/Parbreak leaves are blank, as the parser's are) the prescribed token text is
simply the kept characters of the source text. -/
theorem C01_specToks_is_source_text (t : ANode) (h : t.noCommentNoVerbatim = true) (hb : t.blankSpaces = true) :
    specToks t = Pretty.keepOf t.intoText :=
  specToks_plain_node t h hb

/-- T1.4 (end to end on the output *text*): for a source without comments and `@typstyle off`
regions whose printed family is certified, the formatted text — rendered at **any** width and indent
unit and passed through the post-pass — has exactly the kept characters of the source text, in order:
formatting changed nothing but blanks and the characters `( ) { } , ; :`. (Rendering adds only line
feeds and blanks, `renderAtoms_filter`; the post-pass removes only blanks, `stripL_filter`.) -/
theorem C01_output_text_keeps_source_text (root : Node) (d : Twin.Doc)
    (ht : tokensCertified root d = true) (hc : commentsCertified root d = true)
    (hplain : (prepare root).noCommentNoVerbatim = true) (hb : (prepare root).blankSpaces = true) (u w : Nat) :
    Pretty.keepOf (strip (pretty w (d.fam u))) = Pretty.keepOf (prepare root).intoText :=
  output_text_keeps_source_text root d ht hc hplain hb u w

/-- T1.4b: the same against the text of the raw syntax tree (the attribute and numbering passes do
not touch the text: `prepare_intoText`); for a lossless parser that text is the source text. -/
theorem C01_output_text_keeps_tree_text (root : Node) (d : Twin.Doc)
    (ht : tokensCertified root d = true) (hc : commentsCertified root d = true)
    (hplain : (prepare root).noCommentNoVerbatim = true) (hb : (prepare root).blankSpaces = true) (u w : Nat) :
    Pretty.keepOf (strip (pretty w (d.fam u))) = Pretty.keepOf root.intoText := by
  rw [← prepare_intoText root]
  exact output_text_keeps_source_text root d ht hc hplain hb u w

/-- T1.5: the post-pass keeps every non-blank character of the whole text, in order. -/
theorem C01_strip_keeps_text (s : List Char) :
    (stripL s).filter (fun c => !isWs c) = s.filter (fun c => !isWs c) := stripL_filter s

/-- T1.4 (list delimiters): a list-like construct prints both of its delimiters in **every** layout —
every width, both modes, every unit — unless its style permits leaving them out (`omit_delim_flat`,
`omit_delim_single`, `omit_delim_empty`).  For every list state and style. -/
theorem C01_delimiters_printed_in_every_layout (e : Env) (s : LS) (sty : ListStyle) (hF : sty.omitDelimFlat = false)
    (hS : sty.omitDelimSingle = false) (hE : sty.omitDelimEmpty = false) (u : Nat) (m : Mode) (xs : List Atom)
    (h : Lay m ((s.print e sty).fam u) xs) : Wrapped (sty.d0.fam u) (sty.d1.fam u) xs :=
  print_wrapped e s sty hF hS hE u m xs h

/-- T1.4 (parentheses are kept): the parentheses of `( expr )` are printed in every layout unless the
body is a literal, array, dictionary, destructuring or block (`parenOmittable`) *and* no comment sits
inside them, or the body is itself parenthesised without a comment (then one layer merges and the
inner one is judged the same way).  In particular never around an identifier, a unary or binary
expression, a field access or a call: `(-1).abs()` keeps its parentheses at every width. -/
theorem C01_parentheses_are_kept (e : Env) (r : Rec) (ctx : Ctx) (n : ANode)
    (hnest : ∀ p, n.children.find? isPattern = some p → (p.kind == .parenthesized && !hasCommentChildren n) = false)
    (hkeep : (parenOmittable n && !hasCommentChildren n) = false) :
    Post (convParenthesized e r ctx n) (fun d => ∀ u m xs, Lay m (d.fam u) xs →
      Wrapped ((e.soft "(").fam u) ((e.soft ")").fam u) xs) :=
  convParenthesized_keeps_parens e r ctx n hnest hkeep

/-- The premises of `C01_parentheses_are_kept` are satisfiable: `(x)`. -/
def exampleParenX : ANode := .inner .parenthesized [.leaf .leftParen "(" {}, .leaf .ident "x" {}, .leaf .rightParen ")" {}] {}
example : (∀ p, exampleParenX.children.find? isPattern = some p → (p.kind == .parenthesized && !hasCommentChildren exampleParenX) = false) ∧
    (parenOmittable exampleParenX && !hasCommentChildren exampleParenX) = false := by
  constructor
  · intro p hp
    have : p = .leaf .ident "x" {} := by
      simp [exampleParenX, ANode.children, isPattern, isExpr, ANode.kind, Kind.isExpr] at hp
      exact hp.symm
    subst this; rfl
  · decide
/-- … and `(1)` is a body whose parentheses may go (the theorem's hypothesis fails there, as it must). -/
example : parenOmittable (.inner .parenthesized [.leaf .leftParen "(" {}, .leaf .int "1" {}, .leaf .rightParen ")" {}] {}) = true := by decide

/-- T1.3 **without a certificate** (route M): for every expression tree of the covered fragment
(`inFrag`: literals, unary, let/destructuring assignment, show, context/if/while/return/include,
named/keyed/spread, arrays, dictionaries, parentheses, code blocks — comments, keywords and white space
anywhere, any node marked `@typstyle off`), every fuel, context and configuration: whatever the printer
returns renders at every width and indent unit to a layout whose code tokens are exactly the tree's.
Proved by induction over the knot from per-construct theorems (Proofs/Carries*.lean). -/
theorem C01_fragment_tokens_preserved (e : Env) (fuel : Nat) (ctx : Ctx) (hctx : NM ctx) (n : ANode) (hx : isExpr n = true) (hq : inFrag n = true)
    (d : Twin.Doc) (k k' : St) (h : ((knot e fuel).expr ctx n).run k = .ok (d, k')) (u w : Nat) :
    tokText (best w 0 [⟨0, .brk, d.fam u⟩]) = (specToks n).toList :=
  (routeM_expr e fuel ctx hctx n hx hq d k k' h u w).1

/-- The same inside equations: in a math-mode context, for every expression of the math fragment
(`inFragM`: attachments, roots, fractions, primes, delimited groups, calls with one- or two-dimensional
arguments, embedded `#` code of the code fragment …) the rendered layout holds exactly the tree's code
tokens, at every width and indent unit. -/
theorem C01_fragment_math_tokens_preserved (e : Env) (fuel : Nat) (ctx : Ctx) (hm : ctx.mode = .math) (n : ANode)
    (hx : isExpr n = true) (hq : inFragM n = true)
    (d : Twin.Doc) (k k' : St) (h : ((knot e fuel).expr ctx n).run k = .ok (d, k')) (u w : Nat) :
    tokText (best w 0 [⟨0, .brk, d.fam u⟩]) = (specToks n).toList :=
  (routeM_math_expr e fuel ctx hm n hx hq d k k' h u w).1

end Typstyle
