import TypstyleModel.Proofs.Strip
import TypstyleModel.Model.Printer.Knot
/-! C11 — output hygiene: final newline, no trailing blanks.  Complete: the statement holds for
every string the post-pass is applied to, hence for every accepted input and configuration. -/
namespace Typstyle

/-- For every string whatsoever: the stripped text is non-empty, ends with a line feed, and each of
its lines is LF-terminated and is empty or ends in a character that is not Unicode white space. -/
theorem C11_strip_hygiene (x : String) :
    (strip x).toList ≠ [] ∧ (strip x).toList.getLast? = some '\n' ∧
    ∀ p ∈ splitNl (strip x).toList, p.2 = true ∧ ∀ c, p.1.getLast? = some c → isWs c = false := by
  rw [strip_toList]
  exact ⟨stripL_ne_nil _, stripL_getLast _, stripL_lines _⟩

/-- C11 for the formatter: whatever tree is accepted, under every configuration and display-width function. -/
theorem C11_output_hygiene (cfg : Config) (wd : String → Nat) (root : Node) (out : String) (h : format cfg wd root = .ok out) :
    out.toList ≠ [] ∧ out.toList.getLast? = some '\n' ∧
    ∀ p ∈ splitNl out.toList, p.2 = true ∧ ∀ c, p.1.getLast? = some c → isWs c = false := by
  unfold format at h
  split at h
  · cases h
    exact C11_strip_hygiene _
  · cases h

/-- The same for range formatting's building block and for any other caller: hygiene does not depend on the width. -/
theorem C11_all_widths (d : Pretty.Doc) (w : Nat) :
    (strip (Pretty.pretty w d)).toList.getLast? = some '\n' := (C11_strip_hygiene _).2.1

end Typstyle
