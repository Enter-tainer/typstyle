import TypstyleModel.Proofs.Table
import TypstyleModel.Props.RouteM
/-! C02 — formatting never changes what the document compiles to (partial: no model of the Typst
evaluator exists; proved here is the white-space decision table at the edges of a piece of markup,
which together with C01/C08/C09/C10 reduces C02 to "evaluation is invariant under tree equivalence and
under the edge changes this table permits" (A-eval), validated by the compile-and-compare oracle). -/
namespace Typstyle
open Pretty

/-- The document is white space (a blank, a line break, or the choice between the two). -/
def IsWs (d : Twin.Doc) : Prop := d = Twin.space ∨ d = Twin.hardline ∨ d = Twin.line

/-- T2.1a: in a content block or strong/emph body, an edge that had white space in the source
(possibly behind a comment) gets white space in the output — in the flat and in the broken layout. -/
theorem C02_edge_space_is_kept (scope : Scope) (isSym hasLB suppressed : Bool) (b : Bound)
    (hs : scope = .contentBlock ∨ scope = .strong)
    (hb : b = .spaceOrBreak ∨ b = .brk ∨ b = .weakSpaceOrBreak ∨ b = .weakBreak) :
    IsWs (getDelim scope isSym hasLB suppressed b) := by
  -- the scope is only ever compared with `document` and `item`
  have h1 : (scope == .document) = false ∧ (scope == .item) = false := by rcases hs with rfl | rfl <;> exact ⟨rfl, rfl⟩
  have hsp : ∀ c : Bool, IsWs (if c then Twin.line else Twin.space) := fun c => by
    cases c
    · exact .inl rfl
    · exact .inr (.inr rfl)
  rcases hb with rfl | rfl | rfl | rfl <;> simp only [getDelim, h1, Bool.or_self, Bool.false_eq_true, if_false]
  · exact hsp _
  · exact .inr (.inl rfl)
  · exact hsp _
  · exact .inr (.inl rfl)

/-- T2.1b: an edge without white space gets none, in every scope. -/
theorem C02_edge_without_space_gets_none (scope : Scope) (isSym hasLB suppressed : Bool) :
    getDelim scope isSym hasLB suppressed .nil = Twin.Doc.nil := by
  cases scope <;> simp [getDelim]

/-- T2.1c: the only edge where white space may appear that was not in the source is next to a
list/enum/term item (`nilOrBreak`), and then only as a line break in the broken layout (never a blank). -/
theorem C02_edge_next_to_item (scope : Scope) (isSym hasLB suppressed : Bool) :
    getDelim scope isSym hasLB suppressed .nilOrBreak = Twin.Doc.nil ∨
    getDelim scope isSym hasLB suppressed .nilOrBreak = Twin.line_ := by
  unfold getDelim
  split
  · exact .inl rfl
  · dsimp only
    split
    · exact .inl rfl
    · exact .inr rfl

/-- T2.1d: at the edges of the document and of item bodies (where Typst trims white space) the
printer emits at most a line break. -/
theorem C02_document_edges (scope : Scope) (isSym hasLB suppressed : Bool) (b : Bound)
    (hs : scope = .document ∨ scope = .item) :
    getDelim scope isSym hasLB suppressed b = Twin.Doc.nil ∨ getDelim scope isSym hasLB suppressed b = Twin.hardline := by
  have h1 : (scope == .document || scope == .item) = true := by rcases hs with rfl | rfl <;> rfl
  unfold getDelim
  rw [if_pos h1]
  split
  · exact .inr rfl
  · exact .inl rfl

theorem C02_layout_sound (w : Nat) (d : Doc) : Lay .brk d (best w 0 [⟨0, .brk, d⟩]) := pretty_lay w d

/-- T2.2 (table reflow keeps the cells): `convert_table` distributes the positional arguments of a
`table`/`grid` call over rows; read row by row the cells are exactly the positional arguments in source
order — none lost, duplicated or moved, whatever the column count, headers and footers. -/
theorem C02_table_rows_keep_the_cells (columns : Nat) (posArgs : List ANode) :
    let rr := posArgs.foldl (tableRowStep columns) (([] : List (List ANode)), ([] : List ANode))
    (if !rr.2.isEmpty then rr.1 ++ [rr.2] else rr.1).flatten = posArgs :=
  tableRows_flatten columns posArgs

/-- … and no row is longer than the column count (so cells never move to another column). -/
theorem C02_table_rows_fit_the_columns (columns : Nat) (hc : 0 < columns) (posArgs : List ANode) :
    let rr := posArgs.foldl (tableRowStep columns) (([] : List (List ANode)), ([] : List ANode))
    ∀ r ∈ (if !rr.2.isEmpty then rr.1 ++ [rr.2] else rr.1), r.length ≤ columns := by
  intro rr r hr
  have h : RowsOK columns rr := List.foldlRecOn posArgs _ ⟨by simp, by simpa using hc⟩
    fun acc hacc a _ => tableRowStep_ok columns acc a hacc
  split at hr
  · simp only [List.mem_append, List.mem_singleton] at hr
    rcases hr with hr | rfl
    · exact h.1 r hr
    · exact Nat.le_of_lt h.2
  · exact h.1 r hr

/-- Route M for calls, `table` and `grid` included (reflowed row by row by `convert_table`, or kept as a
plain list): for every call of the covered fragment, every fuel, non-math context and configuration,
whatever the printer returns renders at every width and indent unit to a layout that holds exactly the
tokens, the prose and the literals of the call — every named argument and every cell, in source order,
none lost, duplicated or moved across a row boundary.  No per-case certificate. -/
theorem C02_fragment_call_keeps_every_argument (e : Env) (fuel : Nat) (ctx : Ctx) (hctx : NM ctx) (n : ANode)
    (hk : n.kind = .funcCall) (hq : inFrag n = true)
    (d : Twin.Doc) (k k' : St) (h : ((knot e fuel).expr ctx n).run k = .ok (d, k')) (u w : Nat) :
    tokText (best w 0 [⟨0, .brk, d.fam u⟩]) = (specToks n).toList ∧
    proseText (best w 0 [⟨0, .brk, d.fam u⟩]) = (specProse n).toList ∧
    litText (best w 0 [⟨0, .brk, d.fam u⟩]) = (specLit n).toList := by
  have hx : isExpr n = true := by unfold isExpr; rw [hk]; rfl
  have := routeM_expr e fuel ctx hctx n hx hq d k k' h u w
  exact ⟨this.1, this.2.2.1, this.2.2.2.1⟩

end Typstyle
