import TypstyleModel.Proofs.LcSafe
import TypstyleModel.Proofs.Emits
import TypstyleModel.Props.RouteM
/-! C06 — no comment lost, duplicated, reordered or reworded (partial: printer side). -/
namespace Typstyle
open Pretty

/-- T6.3 = T4.1: no code ever ends up on the line of a line comment, at any width (certificate). -/
theorem C06_no_code_inside_line_comment (d : Doc) (h : lcSafe d = true) (w : Nat) :
    run false (best w 0 [⟨0, .brk, d⟩]) ≠ none := lcSafe_sound d h w

/-- T6.2 (first half): converting a comment emits only comment-tagged text (nothing rigid is
invented or absorbed), in every layout. -/
theorem C06_comment_emits_only_comment (e : Env) (n : ANode) : Post (convComment e n) (fun c => Soft c.d) :=
  convComment_soft e n

/-- T6.2a: a line comment is printed as one atom holding exactly its text (nothing is reworded,
nothing is absorbed into it). -/
theorem C06_line_comment_text (e : Env) (n : ANode) (h : n.kind = .lineComment) :
    convComment e n = pure ⟨e.cmt n.text, mkText_closed _ _ _⟩ := by
  simp [convComment, h]

/-- T6.2b: the document of a line comment is, in every layout, the single atom `n.text` tagged comment. -/
theorem C06_comment_atom (e : Env) (s : String) (hs : s.isEmpty = false) (m : Mode) (xs : List Atom)
    (h : Lay m (e.cmt s) xs) : xs = [.txt s .comment] :=
  lay_mkText hs h

/-- T6.2c: every line of a multi-line block comment is emitted: the first unchanged, each
continuation line with the common indentation removed (`alignStep`) — only leading blanks of
continuation lines can change, never the text after them. -/
theorem C06_block_comment_line (e : Env) (leading : Nat) (doc : Doc) (i : Nat) (l : String) (hi : i ≠ 0)
    (hl : l.utf8ByteSize > leading) :
    alignStep e leading (doc, i) l = ((doc ++ Pretty.hardline) ++ e.cmt (String.ofList (l.toList.drop leading)), i + 1) := by
  have : (i == 0) = false := by simpa using hi
  simp [alignStep, this, hl]

theorem C06_block_comment_first_line (e : Env) (leading : Nat) (doc : Doc) (l : String) :
    alignStep e leading (doc, 0) l = (doc ++ e.cmt l, 1) := by
  simp [alignStep]

/-- A comment is converted where it stands in the flow of its parent: the flow stylist pushes the
comment's document at the comment's position among the children (no reordering inside a flow). -/
theorem C06_flow_keeps_comment_position {σ : Type} (e : Env) (ctx : Ctx)
    (producer : σ → Ctx → ANode → M (σ × Option FlowItem)) (acc : FSt σ) (child : ANode)
    (hk : isCommentKind child.kind = true) (hkw : child.kind.isKeyword = false) :
    flowStepM e ctx producer acc child =
      (do let d ← convCommentT e child
          pure { acc with flow := acc.flow.pushComment d (child.kind == .blockComment),
                          peekLC := child.kind == .lineComment, peekHash := false }) := by
  simp [flowStepM, hk, hkw]

/-- T6.1 (comments are preserved, by construction): the printer's documents carry the text of
their comments (all non-blank characters of comment atoms); every builder operation maintains it
and an alternative is only admitted between documents with the same comment text.  If the family
produced for a tree passes the comparison with the tree's own comment text (`commentsCertified`,
evaluated on every case of the correspondence run), then at **every** width and indent unit the
rendered layout contains every comment of the tree (outside verbatim regions, which are emitted
as they are), complete, exactly once and in source order — none dropped, duplicated, merged with
code or reordered. -/
theorem C06_comments_preserved (root : Node) (d : Twin.Doc) (h : commentsCertified root d = true) (u w : Nat) :
    cmtText (best w 0 [⟨0, .brk, d.fam u⟩]) = (specCmts (prepare root)).toList :=
  stream_certified (c := .cmt) h u .brk _ (pretty_lay w _)

theorem C06_comments_preserved_all_layouts (root : Node) (d : Twin.Doc) (h : commentsCertified root d = true)
    (u : Nat) (m : Mode) (xs : List Atom) (hl : Lay m (d.fam u) xs) :
    cmtText xs = (specCmts (prepare root)).toList :=
  stream_certified (c := .cmt) h u m xs hl

/-- T6.2 for **every comment**: the document `convert_comment` builds holds comment text only and
contains exactly the non-blank characters of the comment, in order — line comments, block comments in
the bullet style and in the re-aligned style, any indentation, any line endings (CR, CRLF, LF), any
characters.  No hypothesis. -/
theorem C06_comment_conversion_is_exact (e : Env) (n : ANode) :
    Post (convComment e n) (fun c => c.d.commentOnly = true ∧ c.d.allChars = nonws n.text.toList) :=
  convComment_ok e n

/-- T6.1 without a certificate (route M): for every expression tree of the covered fragment the
rendered layout, at every width and unit, contains exactly the tree's comments, complete and in order. -/
theorem C06_fragment_comments_preserved (e : Env) (fuel : Nat) (ctx : Ctx) (hctx : NM ctx) (n : ANode) (hx : isExpr n = true) (hq : inFrag n = true)
    (d : Twin.Doc) (k k' : St) (h : ((knot e fuel).expr ctx n).run k = .ok (d, k')) (u w : Nat) :
    cmtText (best w 0 [⟨0, .brk, d.fam u⟩]) = (specCmts n).toList :=
  (routeM_expr e fuel ctx hctx n hx hq d k k' h u w).2.1

end Typstyle
