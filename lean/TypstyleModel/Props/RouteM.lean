import TypstyleModel.Proofs.CarriesKnot
/-! Route M: stream preservation **without a per-case certificate** — for every tree of the covered
fragment (`inFrag`, Model/Fragment.lean), every fuel, context, configuration, width and indent unit.
The `Cxx_fragment_*` theorems of Props/Cxx.lean share this one proof. -/
namespace Typstyle
open Pretty

/-- What `Carries` means for a layout: every consistent layout of every member of the family holds exactly the
five streams. -/
theorem layout_of_carries (d : Twin.Doc) (n : ANode) (hc : Carries d (specAll n)) (u : Nat) (m : Mode) (xs : List Atom)
    (hl : Lay m (d.fam u) xs) :
    tokText xs = (specToks n).toList ∧ cmtText xs = (specCmts n).toList ∧ proseText xs = (specProse n).toList ∧
    litText xs = (specLit n).toList ∧ verbText xs = (specVerb n).toList := by
  have em := fun c => d.emits hc.1 u c m xs hl
  rw [hc.2] at em
  exact ⟨em .tok, em .cmt, em .prose, em .lit, em .verb⟩

theorem streams_of_carries (d : Twin.Doc) (n : ANode) (hc : Carries d (specAll n)) (u w : Nat) :
    tokText (best w 0 [⟨0, .brk, d.fam u⟩]) = (specToks n).toList ∧
    cmtText (best w 0 [⟨0, .brk, d.fam u⟩]) = (specCmts n).toList ∧
    proseText (best w 0 [⟨0, .brk, d.fam u⟩]) = (specProse n).toList ∧
    litText (best w 0 [⟨0, .brk, d.fam u⟩]) = (specLit n).toList ∧
    verbText (best w 0 [⟨0, .brk, d.fam u⟩]) = (specVerb n).toList :=
  layout_of_carries d n hc u .brk _ (pretty_lay w (d.fam u))

/-- (`NM ctx`: the context is not math mode; math mode has its own fragment `inFragM` and the theorems
`routeM_math_expr` / `routeM_math_body` below — inside equations a call's arguments are laid out by other
code.)  Whatever the printer returns for an expression of the fragment renders — at every width `w` and
indent unit `u` — to a layout whose code tokens, comments, prose, literals and verbatim text are
exactly those of the tree, in order. -/
theorem routeM_expr (e : Env) (fuel : Nat) (ctx : Ctx) (hctx : NM ctx) (n : ANode) (hx : isExpr n = true) (hq : inFrag n = true)
    (d : Twin.Doc) (k k' : St) (h : ((knot e fuel).expr ctx n).run k = .ok (d, k')) (u w : Nat) :
    tokText (best w 0 [⟨0, .brk, d.fam u⟩]) = (specToks n).toList ∧
    cmtText (best w 0 [⟨0, .brk, d.fam u⟩]) = (specCmts n).toList ∧
    proseText (best w 0 [⟨0, .brk, d.fam u⟩]) = (specProse n).toList ∧
    litText (best w 0 [⟨0, .brk, d.fam u⟩]) = (specLit n).toList ∧
    verbText (best w 0 [⟨0, .brk, d.fam u⟩]) = (specVerb n).toList :=
  streams_of_carries d n ((knot_frag e fuel).1.expr ctx n hctx hx hq k d k' h) u w

/-- The same for every consistent layout (not only the renderer's choice). -/
theorem routeM_expr_all_layouts (e : Env) (fuel : Nat) (ctx : Ctx) (hctx : NM ctx) (n : ANode) (hx : isExpr n = true) (hq : inFrag n = true)
    (d : Twin.Doc) (k k' : St) (h : ((knot e fuel).expr ctx n).run k = .ok (d, k')) (u : Nat) (m : Mode) (xs : List Atom)
    (hl : Lay m (d.fam u) xs) :
    tokText xs = (specToks n).toList ∧ cmtText xs = (specCmts n).toList ∧ proseText xs = (specProse n).toList ∧
    litText xs = (specLit n).toList ∧ verbText xs = (specVerb n).toList :=
  layout_of_carries d n ((knot_frag e fuel).1.expr ctx n hctx hx hq k d k' h) u m xs hl

/-- **Math mode.**  Whatever the printer returns, in a math-mode context, for an expression of the math
fragment `inFragM` renders to a layout that holds exactly the tokens, comments, prose, literals and verbatim
text of the tree. -/
theorem routeM_math_expr (e : Env) (fuel : Nat) (ctx : Ctx) (hm : ctx.mode = .math) (n : ANode) (hx : isExpr n = true)
    (hq : inFragM n = true) (d : Twin.Doc) (k k' : St) (h : ((knot e fuel).expr ctx n).run k = .ok (d, k')) (u w : Nat) :
    tokText (best w 0 [⟨0, .brk, d.fam u⟩]) = (specToks n).toList ∧
    cmtText (best w 0 [⟨0, .brk, d.fam u⟩]) = (specCmts n).toList ∧
    proseText (best w 0 [⟨0, .brk, d.fam u⟩]) = (specProse n).toList ∧
    litText (best w 0 [⟨0, .brk, d.fam u⟩]) = (specLit n).toList ∧
    verbText (best w 0 [⟨0, .brk, d.fam u⟩]) = (specVerb n).toList :=
  streams_of_carries d n ((knot_frag e fuel).2.expr ctx n hm hx hq k d k' h) u w

/-- The same for a math body (`convert_math`). -/
theorem routeM_math_body (e : Env) (fuel : Nat) (ctx : Ctx) (hm : ctx.mode = .math) (n : ANode) (hk : n.kind = .math)
    (hq : inFragM n = true) (d : Twin.Doc) (k k' : St) (h : ((knot e fuel).math ctx n).run k = .ok (d, k')) (u w : Nat) :
    tokText (best w 0 [⟨0, .brk, d.fam u⟩]) = (specToks n).toList ∧
    cmtText (best w 0 [⟨0, .brk, d.fam u⟩]) = (specCmts n).toList ∧
    proseText (best w 0 [⟨0, .brk, d.fam u⟩]) = (specProse n).toList ∧
    litText (best w 0 [⟨0, .brk, d.fam u⟩]) = (specLit n).toList ∧
    verbText (best w 0 [⟨0, .brk, d.fam u⟩]) = (specVerb n).toList :=
  streams_of_carries d n ((knot_frag e fuel).2.math ctx n hm hk hq k d k' h) u w

/-- **Whole documents.**  If the (annotated) tree of a document lies in the covered fragment, every
certificate of the printed family holds — as a theorem, with nothing evaluated: whatever `printTwin`
returns for it is `good` and carries exactly the tokens, comments, verbatim text, prose and literals
the tree prescribes.  (`C01_tokens_preserved`, `C06_comments_preserved`, `C07_verbatim_preserved`,
`C08_prose_preserved`, `C10_literals_preserved` then apply with their hypothesis discharged.) -/
theorem routeM_document (e : Env) (root : Node) (hk : (prepare root).kind = .markup) (hq : inFrag (prepare root) = true)
    (d : Twin.Doc) (calls : Nat) (h : printTwin e root = .ok (d, calls)) :
    tokensCertified root d = true ∧ commentsCertified root d = true ∧ verbatimCertified root d = true ∧
    proseCertified root d = true ∧ literalsCertified root d = true := by
  unfold printTwin at h
  simp only at h
  split at h
  · rename_i d' s' hrun
    simp only [Except.ok.injEq, Prod.mk.injEq] at h
    obtain ⟨rfl, _⟩ := h
    obtain ⟨hg, hs⟩ := (knot_frag e _).1.markup {} (prepare root) .document nofun hk hq _ _ _ hrun
    unfold tokensCertified commentsCertified verbatimCertified proseCertified literalsCertified
      Twin.Doc.toks Twin.Doc.cmts Twin.Doc.verbs Twin.Doc.prose Twin.Doc.lits
    rw [hg, hs]
    simp [specAll]
  · cases h

end Typstyle
