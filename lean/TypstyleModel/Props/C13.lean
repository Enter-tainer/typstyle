import TypstyleModel.Proofs.Range
import TypstyleModel.Proofs.CarriesKnot
/-! C13 — range formatting is safe to splice (selection, covering and refusal parts; the splice
equivalence needs the parser and is searched, not proved). -/
namespace Typstyle
open Pretty

theorem sum_sublist_le {l₁ l₂ : List Nat} (h : l₁.Sublist l₂) : l₁.sum ≤ l₂.sum := by
  induction h with
  | slnil => simp
  | cons a _ ih => simp; omega
  | cons_cons a _ ih => simp; omega

/-- Trimming never extends a range: the trimmed text is at most as long (in bytes) as the request. -/
theorem C13_trimEnd_shrinks (l : List Char) : bytesOf (trimEndL l) ≤ bytesOf l :=
  sum_sublist_le ((trimEndL_sublist l).map Char.utf8Size)

/-- The trimmed range is well-formed: start ≤ end, and the end never moves left of the requested start. -/
theorem C13_trimmed_range_ordered (text : List Char) (s e : Nat) :
    (trimRange text s e).1 ≤ (trimRange text s e).2 ∧ s ≤ (trimRange text s e).2 := by
  unfold trimRange
  simp only
  constructor <;> omega

/-- T13.2: when range formatting returns text, the returned range is the range of a node of the
tree (a Markup, expression or pattern), it contains the trimmed, clamped request, and that node has
no syntax errors. -/
theorem C13_returned_range_covers_request (cfg : Config) (wd : String → Nat) (src : String) (root : ENode) (a b start stop : Nat) (txt : String)
    (h : formatRange cfg wd src root a b = .ok start stop txt) :
    let r := trimRange src.toList (min a src.utf8ByteSize) (min b src.utf8ByteSize)
    start ≤ r.1 ∧ min r.2 src.utf8ByteSize ≤ stop ∧ stop ≤ root.len := by
  intro r
  unfold formatRange at h
  split at h
  · cases h
  · cases h
  · rename_i t off len d indent hdoc
    simp only [RangeResult.ok.injEq] at h
    obtain ⟨rfl, rfl, _⟩ := h
    obtain ⟨n, mode, hcov, _, _, rfl, _⟩ := formatRangeDoc_ok hdoc
    obtain ⟨ho, hf, _⟩ := cover_sound hcov
    exact ⟨hf.1, hf.2.1, by simpa using ho.bounds.2⟩

/-- T13.2 (which node): the node that is formatted is a node *of the tree*, starting at the offset
that is returned — the replacement range is a node boundary, never the middle of a token. -/
theorem C13_covering_node_is_a_tree_node (s e : Nat) (root n : ENode) (off : Nat) (mode : LMode)
    (h : cover s e root 0 .markup = some (n, off, mode)) : Occurs root 0 n off :=
  (cover_sound h).1

/-- T13.2 (innermost): no Markup, expression or pattern strictly inside the covering node contains the
request — range formatting touches the smallest unit it can. -/
theorem C13_covering_node_is_innermost (s e : Nat) (root n : ENode) (off : Nat) (mode : LMode)
    (h : cover s e root 0 .markup = some (n, off, mode)) :
    ∀ c pre post, n.children = pre ++ c :: post → ∀ m off', Occurs c (off + ENode.lenL pre) m off' →
      ¬ (off' ≤ s ∧ e ≤ off' + m.len ∧ isCoverKind m.kind = true) := by
  intro c pre post hc m off' ho
  obtain ⟨_, _, md, hn⟩ := cover_sound h
  exact cover_complete (coverL_none (hc ▸ hn)) ho

/-- T13.3 (refusal is justified): the request is refused for want of a covering node only when no
Markup, expression or pattern of the tree contains the trimmed range at all. -/
theorem C13_no_cover_means_nothing_contains_the_range (s e : Nat) (root : ENode) (h : cover s e root 0 .markup = none) :
    ∀ m off', Occurs root 0 m off' → ¬ (off' ≤ s ∧ e ≤ off' + m.len ∧ isCoverKind m.kind = true) :=
  fun _ _ ho => cover_complete h ho

/-- T13.3: an erroneous covering node is refused, never formatted. -/
theorem C13_erroneous_node_is_refused (cfg : Config) (wd : String → Nat) (src : String) (root : ENode) (a b : Nat)
    (n : ENode) (off : Nat) (mode : LMode)
    (hcov : cover (trimRange src.toList (min a src.utf8ByteSize) (min b src.utf8ByteSize)).1
              (min (trimRange src.toList (min a src.utf8ByteSize) (min b src.utf8ByteSize)).2 src.utf8ByteSize)
              root 0 .markup = some (n, off, mode))
    (herr : n.erroneous = true) : formatRange cfg wd src root a b = .refused := by
  unfold formatRange formatRangeDoc
  simp only [hcov, herr, if_true]

/-- T13.4 (the replacement text carries what the replaced node carried, by construction): when the
family printed for the covering node is certified (`rangeCertified`, evaluated on every range case of
the correspondence run, field `rcert`), then every layout of the returned document — at any width,
any indent unit, and with the extra indentation of the line the range starts on — contains exactly the
code tokens, comments, prose, literals and verbatim text of that node, in order.  Splicing it in place
of the node therefore neither adds nor loses any of them in the whole document. -/
theorem C13_replacement_carries_the_node (reorder : Bool) (t : ANode) (d : Twin.Doc)
    (h : rangeCertified reorder t d = true) (u indent : Nat) (m : Mode) (xs : List Atom)
    (hl : Lay m ((d.fam u).nst indent) xs) :
    (reorder = false → tokText xs = (specToks t).toList) ∧ cmtText xs = (specCmts t).toList ∧
    proseText xs = (specProse t).toList ∧ (reorder = false → litText xs = (specLit t).toList) ∧
    verbText xs = (specVerb t).toList := by
  simp only [rangeCertified, Bool.and_eq_true, Bool.or_eq_true, beq_iff_eq] at h
  obtain ⟨⟨⟨⟨⟨hg, ht⟩, hc⟩, hp⟩, hli⟩, hv⟩ := h
  have e := fun c => Pretty.EmitsS.nst (n := indent) (d.emits hg u c) m xs hl
  exact ⟨fun hr => ht.resolve_left (by simp [hr]) ▸ e .tok, hc ▸ e .cmt, hp ▸ e .prose,
    fun hr => hli.resolve_left (by simp [hr]) ▸ e .lit, hv ▸ e .verb⟩

/-- No request is out of range: a range ending past the text is clamped before anything is sliced
(the model has no partial operation here; the panic of the unrepaired code is finding F3). -/
theorem C13_total (cfg : Config) (wd : String → Nat) (src : String) (root : ENode) (a b : Nat) :
    ∃ r, formatRange cfg wd src root a b = r := ⟨_, rfl⟩

/-- The premises are satisfiable: in `#(x)` (bytes 0–4) the request 2..3 is covered by the identifier
`x` at offset 2, a node of the tree, with nothing inside it. -/
def exampleRangeTree : ENode :=
  .inner .markup [.leaf .hash "#" false, .inner .parenthesized [.leaf .leftParen "(" false, .leaf .ident "x" false, .leaf .rightParen ")" false] false] false
example : ∃ n mode, cover 2 3 exampleRangeTree 0 .markup = some (n, 2, mode) ∧ n.kind = .ident := by
  refine ⟨.leaf .ident "x" false, .markup, ?_, rfl⟩
  have h1 : "#".utf8ByteSize = 1 := by decide
  have h2 : "(".utf8ByteSize = 1 := by decide
  have h3 : "x".utf8ByteSize = 1 := by decide
  simp [exampleRangeTree, cover, coverL, modeOfKind, isCoverKind, ENode.len, Kind.isExpr, h1, h2, h3]

theorem rangeCertified_of_carries (reorder : Bool) {t : ANode} {d : Twin.Doc} (hc : Carries d (specAll t)) :
    rangeCertified reorder t d = true := by
  unfold rangeCertified Twin.Doc.toks Twin.Doc.cmts Twin.Doc.prose Twin.Doc.lits Twin.Doc.verbs
  rw [hc.1, hc.2]
  simp [specAll]

/-- T13.4 without a certificate (route M): when the covering node is an expression of the covered
fragment, the family range formatting prints for it **is** certified — for every source, request and
configuration; so `C13_replacement_carries_the_node` applies with no per-case check. -/
theorem C13_fragment_replacement_is_certified (cfg : Config) (wd : String → Nat) (src : String) (root : ENode) (a b : Nat)
    (t : ANode) (off len : Nat) (d : Twin.Doc) (indent : Nat)
    (h : formatRangeDoc cfg wd src root a b = .ok t off len d indent) (hx : isExpr t = true) (hq : inFrag t = true)
    (hmode : ∀ n off' mode, cover (trimRange src.toList (min a src.utf8ByteSize) (min b src.utf8ByteSize)).1
        (min (trimRange src.toList (min a src.utf8ByteSize) (min b src.utf8ByteSize)).2 src.utf8ByteSize) root 0 .markup = some (n, off', mode) → mode ≠ .math) :
    rangeCertified cfg.reorder t d = true := by
  obtain ⟨n, mode, hcov, _, rfl, _, k, hrun⟩ := formatRangeDoc_ok h
  have hx' : n.kind.isExpr = true := prepare_toNode_kind n ▸ hx
  rw [Kind.beq_false_of_class hx' rfl, if_neg Bool.false_ne_true, if_pos hx'] at hrun
  exact rangeCertified_of_carries _ ((knot_frag _ _).1.expr _ _ (hmode _ _ _ hcov) hx hq _ _ _ hrun)

/-- The same inside equations: when the covering node is converted in math mode and is an expression of
the math fragment, the family range formatting prints for it is certified. -/
theorem C13_fragment_math_replacement_is_certified (cfg : Config) (wd : String → Nat) (src : String) (root : ENode) (a b : Nat)
    (t : ANode) (off len : Nat) (d : Twin.Doc) (indent : Nat)
    (h : formatRangeDoc cfg wd src root a b = .ok t off len d indent) (hx : isExpr t = true) (hq : inFragM t = true)
    (hmode : ∀ n off' mode, cover (trimRange src.toList (min a src.utf8ByteSize) (min b src.utf8ByteSize)).1
        (min (trimRange src.toList (min a src.utf8ByteSize) (min b src.utf8ByteSize)).2 src.utf8ByteSize) root 0 .markup = some (n, off', mode) → mode = .math) :
    rangeCertified cfg.reorder t d = true := by
  obtain ⟨n, mode, hcov, _, rfl, _, k, hrun⟩ := formatRangeDoc_ok h
  have hx' : n.kind.isExpr = true := prepare_toNode_kind n ▸ hx
  rw [Kind.beq_false_of_class hx' rfl, if_neg Bool.false_ne_true, if_pos hx'] at hrun
  exact rangeCertified_of_carries _ ((knot_frag _ _).2.expr _ _ (hmode _ _ _ hcov) hx hq _ _ _ hrun)

/-- The same when the covering node is a markup body (the whole document, the body of a content block,
of a heading or list item …) of the covered fragment. -/
theorem C13_fragment_markup_replacement_is_certified (cfg : Config) (wd : String → Nat) (src : String) (root : ENode) (a b : Nat)
    (t : ANode) (off len : Nat) (d : Twin.Doc) (indent : Nat)
    (h : formatRangeDoc cfg wd src root a b = .ok t off len d indent) (hkm : t.kind = .markup) (hq : inFrag t = true)
    (hmode : ∀ n off' mode, cover (trimRange src.toList (min a src.utf8ByteSize) (min b src.utf8ByteSize)).1
        (min (trimRange src.toList (min a src.utf8ByteSize) (min b src.utf8ByteSize)).2 src.utf8ByteSize) root 0 .markup = some (n, off', mode) → mode ≠ .math) :
    rangeCertified cfg.reorder t d = true := by
  obtain ⟨n, mode, hcov, _, rfl, _, k, hrun⟩ := formatRangeDoc_ok h
  have hk : (n.kind == Kind.markup) = true := by rw [← prepare_toNode_kind, hkm]; rfl
  rw [if_pos hk] at hrun
  exact rangeCertified_of_carries _ ((knot_frag _ _).1.markup _ _ .document (hmode _ _ _ hcov) hkm hq _ _ _ hrun)

end Typstyle
