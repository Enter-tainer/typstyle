import TypstyleModel.Proofs.LcSafe
import TypstyleModel.Model.Printer.Base
/-! C04 — well-formed input never yields output with syntax errors (partial: printer side).
Proved: layout soundness of the renderer (R1/R2) and soundness of the `lcSafe` certificate, which the
check evaluates on the implementation's own document for every generated input: if it accepts, then at
*every* width no text follows an open line comment on its line (no delimiter is swallowed). -/
namespace Pretty

/-- R1/R2: for every width the renderer's output is a consistent layout: every group flat or
broken, flat inherited, and a flat region never contains a hard line break. -/
theorem C04_layout_sound (w : Nat) (d : Doc) : Lay .brk d (best w 0 [⟨0, .brk, d⟩]) := pretty_lay w d

/-- T4.1 (route V): certificate soundness, all widths. -/
theorem C04_line_comment_never_swallows (d : Doc) (h : lcSafe d = true) (w : Nat) :
    run false (best w 0 [⟨0, .brk, d⟩]) ≠ none := lcSafe_sound d h w

/-- A group that the renderer lays out flat contains no hard line break. -/
theorem C04_flat_group_has_no_break (w pos : Nat) (d : Doc) (rest : List Cmd)
    (h : fitting w pos [d] .flat rest = true) : FlatNoHard d :=
  (fitting_flat w pos [d] .flat rest rfl h).1

end Pretty

namespace Typstyle
open Pretty

/-- T4.2 (`optional_paren`): the delimiters are printed exactly when the body is laid out broken.
In every layout of `optional_paren body` (at every indent unit): either the group is flat — then the
output is a flat layout of the body alone, which by R2 contains no hard line break, and no
delimiter is printed — or it is broken — then the output is the opening delimiter, a line break, a
layout of the body, a line break and the closing delimiter.  No layout has a delimiter on one side
only, and none breaks the body without delimiters. -/
theorem C04_optional_paren_layouts (e : Env) (body : Twin.Doc) (d0 d1 : String) (u : Nat) (m : Mode) (xs : List Atom)
    (h0 : d0.isEmpty = false) (h1 : d1.isEmpty = false) (hb : body.fam u ≠ .nil)
    (hl : Lay m ((optionalParen e body d0 d1).fam u) xs) :
    (∃ bx, Lay .flat (body.fam u) bx ∧ xs = bx) ∨
    (∃ bx k1 k2, Lay .brk (body.fam u) bx ∧
        xs = [.txt d0 .soft, .nl k1] ++ bx ++ [.nl k2, .txt d1 .soft]) := by
  simp only [optionalParen, Env.soft, Twin.fam_grp, Twin.fam_app, Twin.fam_nstTab, Twin.fam_falt, Twin.fam_hardline,
    Twin.fam_nil, Twin.fam_mkText] at hl
  -- group, then `(open ++ body) nested ++ close`; both delimiters are alternatives of the same mode
  obtain ⟨m', hl⟩ := lay_grp_inv hl
  obtain ⟨_, xc, rfl, hn, hc⟩ := lay_app_iff.mp hl
  obtain ⟨xo, bx, rfl, ho, hbody⟩ := lay_app_iff.mp (lay_nst_iff.mp hn)
  cases ho with
  | flatAltF ho =>
    cases ho
    cases hc with
    | flatAltF hc => cases hc; exact .inl ⟨bx, hbody, by simp⟩
  | flatAltB ho =>
    cases hc with
    | flatAltB hc =>
      obtain ⟨_, _, rfl, ha, hnl⟩ := lay_app_iff.mp ho
      obtain ⟨_, _, rfl, hnl', hb'⟩ := lay_app_iff.mp hc
      obtain rfl := lay_mkText h0 ha
      obtain rfl := lay_mkText h1 hb'
      cases hnl with
      | @hardline k1 =>
        cases hnl' with
        | @hardline k2 => exact .inr ⟨bx, k1, k2, hbody, by simp⟩

end Typstyle
