import TypstyleModel.Proofs.Pieces
/-! C09 — white space in math is neither created, removed nor converted (printer side).
`convert_math` walks the children of a `Math` node in order; the theorems say what each kind of
child contributes, and that nothing is inserted between two children. -/
namespace Typstyle
open Pretty

/-- T9.1a: a white-space child of a `Math` node is printed as a hard line break if it contains a
line break (any newline Typst recognises), and as exactly one blank otherwise — never as a soft break
that a wide line could flatten, never as nothing. -/
theorem C09_math_space (e : Env) (r : Rec) (ctx : Ctx) (doc : Twin.Doc) (atHash : Bool) (node : ANode)
    (hx : isExpr node = false) (h : node.kind = .space) :
    mathStep e r ctx (doc, atHash) node =
      pure (doc ++ (if hasLinebreak node.text then Twin.hardline else Twin.space), false) := by
  simp [mathStep, hx, h]

/-- A hard line break is never flattened (R2), and a blank is a text atom: so the white space of
the output between two math atoms has a line break iff the source's had. -/
theorem C09_hard_break_survives_every_layout (m : Mode) (xs : List Atom) (h : Lay m Pretty.hardline xs) :
    ∃ k, xs = [.nl k] := by
  cases h
  exact ⟨_, rfl⟩

/-- T9.1b: an expression child contributes its own conversion and *nothing else*: no blank or break
is created between two adjacent atoms. -/
theorem C09_math_atom_adds_no_space (e : Env) (r : Rec) (ctx : Ctx) (doc : Twin.Doc) (atHash : Bool) (node : ANode)
    (hx : isExpr node = true) :
    mathStep e r ctx (doc, atHash) node =
      (do let d ← r.expr (ctx.withModeIf .code atHash) node; pure (doc ++ d, false)) := by
  simp [mathStep, hx]

/-- T9.1c: every other leaf (delimiters of a call, `#`) is copied. -/
theorem C09_math_other_leaf_is_copied (e : Env) (r : Rec) (ctx : Ctx) (doc : Twin.Doc) (atHash : Bool) (node : ANode)
    (hx : isExpr node = false) (h1 : node.kind ≠ .space) (h2 : node.kind ≠ .hash) (h3 : isCommentKind node.kind = false) :
    mathStep e r ctx (doc, atHash) node = pure (doc ++ e.tok node.text, false) := by
  simp [mathStep, hx, h1, h2, h3]

/-- Math is always converted with breaks suppressed (embedded code cannot introduce line breaks
between math atoms). -/
theorem C09_math_suppresses_breaks (e : Env) (r : Rec) (ctx : Ctx) (n : ANode) (h : n.attrs.disabled = false) :
    convMath e r ctx n =
      (do enter .math n.attrs.id
          let acc ← n.children.foldlM (mathStep e r ctx.suppress) (Twin.Doc.nil, false)
          pure acc.1) := by
  simp [convMath, h]

/-- T9.2: inside math delimiters, white space between the pieces is a blank, or a (soft) line break
where the source had a line break; a `Math` child is converted by the math entry point; nothing else
is emitted for other children. -/
theorem C09_delimited_space (r : Rec) (c : Ctx) (node : ANode) (hm : node.kind ≠ .math) (h : node.kind = .space) :
    delimitedProducer r () c node =
      pure ((), tight (if hasLinebreak node.text then Twin.line else Twin.space)) := by
  simp [delimitedProducer, h]

/-- T9.4 (exemption): around sub/superscripts and roots, white space is dropped (Typst ignores it
there) — except before a subscript on a hashed identifier, where `#x _1` and `#x_1` differ: there the
producer remembers the base (state `true`) and T9.5 keeps one blank. -/
theorem C09_attach_drops_space (e : Env) (r : Rec) (st : Bool) (c : Ctx) (node : ANode) (hx : isExpr node = false) (h : node.kind = .space) :
    attachProducer e r st c node = pure (st, none) := by
  simp [attachProducer, hx, h]

/-- T9.5: a subscript mark after a hashed identifier is emitted with a blank allowed before it. -/
theorem C09_attach_keeps_space_after_hashed_ident (e : Env) (r : Rec) (c : Ctx) (node : ANode)
    (hx : isExpr node = false) (h : node.kind = .underscore) :
    attachProducer e r true c node = pure (false, some ⟨e.tok node.text, true, false⟩) := by
  simp [attachProducer, hx, h]

theorem C09_root_drops_space (e : Env) (r : Rec) (c : Ctx) (node : ANode) (hx : isExpr node = false) (h : node.kind = .space) :
    rootProducer e r () c node = pure ((), none) := by
  simp [rootProducer, hx, h]

/-- T9.1 (the whole `Math` node): the document `convert_math` returns is the concatenation, in source
order, of exactly one piece per child — nothing before, between or after them — and the piece of a
white-space child is one hard line break if the token held a line break and one blank otherwise
(`MathPiece`; comments, `#` and delimiters are copied; an expression child contributes its own
conversion).  So between two adjacent math atoms the document has white space iff the source had a
token there, and a line break iff that token had one — for every `Math` node, whatever its children. -/
theorem C09_math_document_is_the_sequence_of_its_children (e : Env) (r : Rec) (ctx : Ctx) (n : ANode)
    (h : n.attrs.disabled = false) :
    Post (convMath e r ctx n) (fun d => ∃ pieces, Pieces e n.children pieces ∧ pieces.length = n.children.length ∧
      d = Twin.concatDocs pieces) := by
  rw [C09_math_suppresses_breaks e r ctx n h]
  refine Post.bind_any fun _ => ?_
  exact Post.bind (Post.foldlM_pieces (doc := Prod.fst) Pieces.nil Pieces.snoc (mathStep_piece e r ctx.suppress) n.children (.nil, false))
    (fun acc ⟨ps, hps, hacc⟩ => Post.pure ⟨ps, hps, hps.length, hacc⟩)

end Typstyle
