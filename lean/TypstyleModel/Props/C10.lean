import TypstyleModel.Proofs.EndToEnd
import TypstyleModel.Props.RouteM
/-! C10 — literal content is preserved exactly (printer side; F4 — the post-pass strips blanks
before a line feed inside a multi-line literal — is a genuine counterexample to the end-to-end
statement and is a known finding). -/
namespace Typstyle
open Pretty

/-- The kinds whose leaf text the printer copies as one atom. -/
def Kind.isCopiedLeaf : Kind → Bool
  | .linebreak | .escape | .shorthand | .smartQuote | .link | .label | .ident | .bool | .int | .float
  | .numeric | .str | .mathText | .mathIdent | .mathAlignPoint | .mathShorthand => true
  | _ => false

/-- T10.1: strings (with their embedded line breaks, escapes and blanks), numbers with units and
radix, identifiers, labels, links, escapes … are converted to a single atom holding exactly the
leaf's text, in every context (the tag only records which stream the atom feeds). -/
theorem C10_literal_is_copied (e : Env) (r : Rec) (ctx : Ctx) (n : ANode) (h : n.kind.isCopiedLeaf = true) :
    ∃ tag, leafTag n.kind = some tag ∧ convExprImpl e r ctx n = pure (Twin.mkText e.wd tag n.text) := by
  unfold Kind.isCopiedLeaf at h
  unfold convExprImpl
  split at h
  case h_17 => cases h
  -- for each of the sixteen kinds both tables compute: `leafTag` to a tag, the dispatch to that text
  all_goals rename_i hk; rw [hk]; exact ⟨_, rfl, rfl⟩

/-- A markup text leaf likewise. -/
theorem C10_text_is_copied (e : Env) (r : Rec) (ctx : Ctx) (n : ANode) (h : n.kind = .text) :
    convExprImpl e r ctx n = pure (e.prose n.intoText) := by
  unfold convExprImpl; simp [h]

/-- The atom is the text itself, at every indent unit and in every layout (hence at every width):
the renderer cannot re-space, re-break or re-indent anything inside a literal. -/
theorem C10_token_is_one_atom (wd : String → Nat) (tag : Tag) (s : String) (hs : s.isEmpty = false) (u : Nat) (m : Mode) (xs : List Atom)
    (h : Lay m ((Twin.mkText wd tag s).fam u) xs) : xs = [.txt s tag] :=
  lay_mkText hs h

/-- T10.2 (inline raw with several lines): emitted as a whole, as one literal atom. -/
theorem C10_multiline_inline_raw_is_verbatim (e : Env) (n : ANode) (h : rawIsVerbatim n = true) :
    convRaw e n = e.lit n.intoText := by
  unfold convRaw
  simp only [h, if_true]

/-- T10.4 (literals are preserved, by construction): the printer's documents carry the text of
their literal atoms — every character, blanks and line breaks inside strings and raw text included —
through every builder operation.  If the family printed for a tree passes the comparison with the
tree's own literal text (`literalsCertified`: evaluated on every case of the correspondence run,
field `lit`), then at **every** width and indent unit the rendered layout contains exactly the
tree's literals: strings, raw text (fence, language tag, text lines), numbers with their units,
booleans, identifiers, labels, links, escapes and reference targets, complete and in order. -/
theorem C10_literals_preserved (root : Node) (d : Twin.Doc) (h : literalsCertified root d = true) (u w : Nat) :
    litText (best w 0 [⟨0, .brk, d.fam u⟩]) = (specLit (prepare root)).toList :=
  stream_certified (c := .lit) h u .brk _ (pretty_lay w _)

/-- T10.4r: with import reordering on, the literals are those of the tree with the import items in
the order `importOrder` gives them. -/
theorem C10_literals_preserved_reorder (cfg : PConfig) (root : Node) (d : Twin.Doc)
    (h : literalsCertifiedR cfg root d = true) (u w : Nat) :
    litText (best w 0 [⟨0, .brk, d.fam u⟩]) = (specLit (reorderTree cfg (prepare root))).toList :=
  stream_certified (c := .lit) h u .brk _ (pretty_lay w _)

theorem C10_literals_preserved_all_layouts (root : Node) (d : Twin.Doc) (h : literalsCertified root d = true)
    (u : Nat) (m : Mode) (xs : List Atom) (hl : Lay m (d.fam u) xs) :
    litText xs = (specLit (prepare root)).toList :=
  stream_certified (c := .lit) h u m xs hl

/-- T10.3 (what the post-pass can touch): per line, the characters that are not white space are kept
in order; only blanks before a line end are removed (this is exactly finding F4 for a literal whose
line ends in a blank). -/
theorem C10_strip_only_removes_line_end_blanks (l : List Char) :
    (trimEndL l).filter (fun c => !isWs c) = l.filter (fun c => !isWs c) ∧ (trimEndL l).length ≤ l.length :=
  ⟨trimEndL_filter l, (trimEndL_sublist l).length_le⟩

/-- T10.5 (on the rendered text): a literal atom — a string with its blanks and line breaks, a raw text line, a number with its unit — occurs character for character in the text the renderer produces at any width (the post-pass then touches blanks at line ends only: F4). -/
theorem C10_literal_text_occurs_in_rendered_output (w : Nat) (d : Doc) (s : String) (t : Tag)
    (h : Atom.txt s t ∈ best w 0 [⟨0, .brk, d⟩]) :
    s.toList <:+: (pretty w d).toList :=
  txt_infix_pretty w d s _ h

/-- T10.1 without a certificate (route M): for every expression tree of the covered fragment the
rendered layout contains every literal (strings with all their blanks and line breaks, numbers,
identifiers, booleans) character for character and in order, at every width and unit. -/
theorem C10_fragment_literals_preserved (e : Env) (fuel : Nat) (ctx : Ctx) (hctx : NM ctx) (n : ANode) (hx : isExpr n = true) (hq : inFrag n = true)
    (d : Twin.Doc) (k k' : St) (h : ((knot e fuel).expr ctx n).run k = .ok (d, k')) (u w : Nat) :
    litText (best w 0 [⟨0, .brk, d.fam u⟩]) = (specLit n).toList :=
  (routeM_expr e fuel ctx hctx n hx hq d k k' h u w).2.2.2.1

/-- The same for literals in math (strings, numbers, identifiers inside equations): in a math-mode
context, for every expression of the math fragment the rendered layout contains every literal character
for character and in order. -/
theorem C10_fragment_math_literals_preserved (e : Env) (fuel : Nat) (ctx : Ctx) (hm : ctx.mode = .math) (n : ANode)
    (hx : isExpr n = true) (hq : inFragM n = true)
    (d : Twin.Doc) (k k' : St) (h : ((knot e fuel).expr ctx n).run k = .ok (d, k')) (u w : Nat) :
    litText (best w 0 [⟨0, .brk, d.fam u⟩]) = (specLit n).toList :=
  (routeM_math_expr e fuel ctx hm n hx hq d k k' h u w).2.2.2.1

end Typstyle
