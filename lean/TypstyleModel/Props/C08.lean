import TypstyleModel.Proofs.EndToEnd
import TypstyleModel.Proofs.Pieces
import TypstyleModel.Proofs.Repr
import TypstyleModel.Props.RouteM
/-! C08 — prose is left untouched (printer side).  The line representation of a piece of markup
loses, duplicates and reorders no node; inside a line a space is printed as one blank (never a break),
a line ends with exactly its number of line feeds, text leaves are copied, and an expression on a line
that also holds text is converted with breaks suppressed. -/
namespace Typstyle
open Pretty

/-- T8.1: `collect_markup_repr`'s main loop neither loses, duplicates nor reorders any node that is
not white space (white space becomes line structure: blanks inside a line, line feeds at its end). -/
theorem C08_repr_keeps_every_node (children : List ANode) (acc : List MLine × MLine × Bound) :
    (reprNodes (children.foldl reprStep acc)).filter (fun n => !isWsNode n) =
      (reprNodes acc).filter (fun n => !isWsNode n) ++ children.filter (fun n => !isWsNode n) :=
  repr_keeps_every_node children acc

/-- A paragraph break ends the line with exactly its number of line feeds. -/
theorem C08_parbreak_keeps_its_line_feeds (lines : List MLine) (cur : MLine) (sb : Bound) (node : ANode)
    (h : node.kind = .parbreak) :
    reprStep (lines, cur, sb) node = (lines ++ [{ cur with breaks := countLinebreaks node.text }], {}, sb) := by
  simp [reprStep, h]

/-- A line break inside a paragraph ends the line with one line feed (it is never turned into a blank). -/
theorem C08_line_break_ends_the_line (lines : List MLine) (cur : MLine) (sb : Bound) (node : ANode)
    (h : node.kind = .space) (hne : cur.nodes.isEmpty = false) (hlb : hasLinebreak node.text = true) :
    reprStep (lines, cur, sb) node = (lines ++ [{ cur with breaks := 1 }], {}, sb) := by
  simp [reprStep, h, hne, hlb]

/-- A blank between two pieces of one line stays a node of that line … -/
theorem C08_blank_stays_in_line (lines : List MLine) (cur : MLine) (sb : Bound) (node : ANode)
    (h : node.kind = .space) (hne : cur.nodes.isEmpty = false) (hlb : hasLinebreak node.text = false) :
    reprStep (lines, cur, sb) node = (lines, { cur with nodes := cur.nodes ++ [node] }, sb) := by
  simp [reprStep, h, hne, hlb, isBlockElem]

/-- T8.2a: … and is printed as exactly one blank — not a line break, not nothing — whatever the width. -/
theorem C08_blank_is_one_space (e : Env) (r : Rec) (ctx : Ctx) (mixed : Bool) (doc : Twin.Doc) (node : ANode)
    (h : node.kind = .space) : markupNodeStep e r ctx mixed doc node = pure (doc ++ Twin.space) := by
  simp [markupNodeStep, h]

/-- T8.4: a run of text is copied as one atom. -/
theorem C08_text_is_copied (e : Env) (r : Rec) (ctx : Ctx) (mixed : Bool) (doc : Twin.Doc) (node : ANode)
    (h : node.kind = .text) : markupNodeStep e r ctx mixed doc node = pure (doc ++ e.prose node.intoText) := by
  simp [markupNodeStep, h]

/-- T8.3: an expression on a line that also holds text/strong/emph/raw is converted with breaks
suppressed (so that the line is not re-wrapped around it). -/
theorem C08_mixed_line_suppresses_breaks (e : Env) (r : Rec) (ctx : Ctx) (doc : Twin.Doc) (node : ANode)
    (hk : node.kind ≠ .space ∧ node.kind ≠ .text) (he : isExpr node = true) :
    markupNodeStep e r ctx true doc node = (do let d ← r.expr ctx.suppress node; pure (doc ++ d)) := by
  simp [markupNodeStep, hk.1, hk.2, he]

/-- T8.2b: a line is followed by exactly `breaks` hard line breaks (a hard break is never flattened, R2). -/
theorem C08_line_ends_with_its_breaks (e : Env) (r : Rec) (ctx : Ctx) (doc : Twin.Doc) (l : MLine) :
    markupLineStep e r ctx doc l =
      (do let d ← l.nodes.foldlM (markupNodeStep e r ctx l.mixedText) doc
          pure (if l.breaks > 0 then d ++ Twin.repeatN Twin.hardline l.breaks else d)) := rfl

/-- T8.5 (prose is preserved, by construction): the printer's documents carry the text of their
prose atoms — every character of markup text, shorthands, smart quotes, escapes, links, labels and
reference targets — through every builder operation.  If the family printed for a tree passes the
comparison with the tree's own prose text (`proseCertified`: evaluated on every case of the
correspondence run, field `prose`), then at **every** width and indent unit the rendered layout
contains exactly the tree's prose, character for character and in order: no run of text is
reworded, dropped, duplicated or moved. -/
theorem C08_prose_preserved (root : Node) (d : Twin.Doc) (h : proseCertified root d = true) (u w : Nat) :
    proseText (best w 0 [⟨0, .brk, d.fam u⟩]) = (specProse (prepare root)).toList :=
  stream_certified (c := .prose) h u .brk _ (pretty_lay w _)

theorem C08_prose_preserved_all_layouts (root : Node) (d : Twin.Doc) (h : proseCertified root d = true)
    (u : Nat) (m : Mode) (xs : List Atom) (hl : Lay m (d.fam u) xs) :
    proseText xs = (specProse (prepare root)).toList :=
  stream_certified (c := .prose) h u m xs hl

/-- T8.6 (on the rendered text): a run of prose — one atom — occurs character for character in the text the renderer produces at any width. -/
theorem C08_prose_text_occurs_in_rendered_output (w : Nat) (d : Doc) (s : String) (t : Tag)
    (h : Atom.txt s t ∈ best w 0 [⟨0, .brk, d⟩]) :
    s.toList <:+: (pretty w d).toList :=
  txt_infix_pretty w d s _ h

/-- T8.2 (a whole line): the document of one markup line is what was there before, followed by
exactly one piece per node of the line in source order — a white-space node ↦ exactly one blank (never
a break, never nothing), a text node ↦ its text as one atom, every other token ↦ its text; an embedded
expression or comment ↦ its own conversion — followed by exactly `breaks` hard line breaks.  Nothing is
inserted between two pieces: the printer never re-wraps or re-joins prose.  For every line whatsoever. -/
theorem C08_line_is_the_sequence_of_its_nodes (e : Env) (r : Rec) (ctx : Ctx) (doc : Twin.Doc) (l : MLine) :
    Post (markupLineStep e r ctx doc l) (fun doc' => ∃ pieces, MPieces e l.nodes pieces ∧ pieces.length = l.nodes.length ∧
      doc' = (if l.breaks > 0 then (pieces.foldl (· ++ ·) doc) ++ Twin.repeatN Twin.hardline l.breaks else pieces.foldl (· ++ ·) doc)) :=
  Post.bind (Post.foldlM_pieces (doc := id) MPieces.nil MPieces.snoc (markupNodeStep_piece e r ctx l.mixedText) l.nodes doc)
    (fun acc ⟨ps, hps, hacc⟩ => Post.pure ⟨ps, hps, hps.length, by rw [show acc = _ from hacc]; rfl⟩)

end Typstyle
