import TypstyleModel.Props.RouteM
/-! C19 — import items are reordered only on request, and then only permuted.  `importOrder` is
the order in which `convert_import_items` hands the (flattened) item nodes to the list stylist;
it is the only place of the model that reads `reorder`. -/
namespace Typstyle

/-- T19.1: with reordering off every import keeps its source order. -/
theorem C19_off_keeps_order (cfg : PConfig) (nodes : List ANode) (h : cfg.reorder = false) :
    importOrder cfg nodes = nodes := by
  simp [importOrder, h]

/-- T19.2a: whatever the setting, the items handed to the printer are a permutation of the
source's items — nothing is added, dropped or duplicated. -/
theorem C19_always_a_permutation (cfg : PConfig) (nodes : List ANode) : (importOrder cfg nodes).Perm nodes :=
  importOrder_perm cfg nodes

/-- T19.2b: with reordering on, and no comment and no name bound twice, the items are sorted by
their source text (code-point order = byte order of valid UTF-8). -/
theorem C19_on_sorted (cfg : PConfig) (nodes : List ANode) (h : cfg.reorder = true) (hs : importSortable nodes = true) :
    SortedBy importSortKey (importOrder cfg nodes) := by
  simp only [importOrder, h, hs, Bool.and_self, if_true]
  exact stableSort_sorted _ _

/-- T19.2c: an import that contains a comment keeps its order, reordering on or off. -/
theorem C19_comment_keeps_order (cfg : PConfig) (nodes : List ANode) (c : ANode) (hc : c ∈ nodes)
    (hk : isCommentKind c.kind = true) : importOrder cfg nodes = nodes := by
  have : nodes.all (fun n => !isCommentKind n.kind) = false :=
    Bool.eq_false_iff.mpr fun hall => by simpa [hk] using List.all_eq_true.mp hall c hc
  simp [importOrder, importSortable, this]

theorem noDupNames_sound (nodes : List ANode) (seen : List String) (h : noDupNames nodes seen = true) :
    (nodes.filterMap importBoundName).Nodup ∧ ∀ n ∈ nodes.filterMap importBoundName, n ∉ seen := by
  induction nodes generalizing seen with
  | nil => simp
  | cons n rest ih =>
    unfold noDupNames at h
    cases hb : importBoundName n with
    | none =>
      rw [hb] at h
      simpa [List.filterMap_cons, hb] using ih seen h
    | some name =>
      rw [hb] at h
      simp only at h
      split at h
      · cases h
      · rename_i hs
        obtain ⟨h1, h2⟩ := ih (name :: seen) h
        simp only [List.filterMap_cons, hb, List.nodup_cons, List.mem_cons, forall_eq_or_imp]
        exact ⟨⟨fun hm => h2 name hm (by simp), h1⟩, by simpa using hs, fun m hm hms => h2 m hm (by simp [hms])⟩

/-- T19.2d: an import that binds the same name twice keeps its order, reordering on or off. -/
theorem C19_duplicate_keeps_order (cfg : PConfig) (nodes : List ANode)
    (hd : ¬ (nodes.filterMap importBoundName).Nodup) : importOrder cfg nodes = nodes := by
  have : importSortable nodes = false := by
    unfold importSortable
    cases h : noDupNames nodes [] with
    | false => simp
    | true => exact absurd (noDupNames_sound nodes [] h).1 hd
  simp [importOrder, this]

/-- T19.3: sorting is idempotent — sorting the sorted items again (a second run with reordering
on) changes nothing; in particular items with equal keys keep their order (stability). -/
theorem C19_sorting_is_idempotent (nodes : List ANode) :
    stableSort importSortKey (stableSort importSortKey nodes) = stableSort importSortKey nodes :=
  stableSort_idem importSortKey nodes

/-- T19.3b: items that are already in order are left exactly as they are. -/
theorem C19_sorted_items_are_kept (cfg : PConfig) (nodes : List ANode) (h : SortedBy importSortKey nodes) :
    importOrder cfg nodes = nodes := by
  unfold importOrder
  split
  · exact stableSort_id_of_sorted importSortKey nodes h
  · rfl

/-- T19.4 ("nothing else in the output differs", token side, by construction): whatever the flag,
the code tokens and the literals of the rendered output — at every width and indent unit — are those
of the source tree with only the children of sortable import item lists rearranged (`reorderTree`);
with the flag off that tree is the source tree (`reorderTree_off`).  Conditional on the per-case
certificates `tok` and `lit`, which are evaluated under both values of the flag. -/
theorem C19_only_import_items_move (cfg : PConfig) (root : Node) (d : Twin.Doc)
    (ht : tokensCertifiedR cfg root d = true) (hl : literalsCertifiedR cfg root d = true) (u w : Nat) :
    Pretty.tokText (Pretty.best w 0 [⟨0, .brk, d.fam u⟩]) = (specToks (reorderTree cfg (prepare root))).toList ∧
    Pretty.litText (Pretty.best w 0 [⟨0, .brk, d.fam u⟩]) = (specLit (reorderTree cfg (prepare root))).toList :=
  ⟨stream_certified (c := .tok) ht u .brk _ (Pretty.pretty_lay w _),
   stream_certified (c := .lit) hl u .brk _ (Pretty.pretty_lay w _)⟩

theorem C19_flag_off_tree_is_unchanged (cfg : PConfig) (h : cfg.reorder = false) (t : ANode) :
    reorderTree cfg t = t := reorderTree_off cfg h t

/-- The printer sorts the *flattened* node list of an import — parentheses, commas and white space
included.  **That orders the items among themselves exactly as sorting the items alone does**: for
every node list, the items of the sorted list are the sorted items (for any sub-family in fact). -/
theorem C19_sorting_the_flattened_list_sorts_the_items (nodes : List ANode) :
    (stableSort importSortKey nodes).filter isImportItem = stableSort importSortKey (nodes.filter isImportItem) :=
  filter_stableSort importSortKey isImportItem nodes

/-- The sorted list is in order (pairwise, by the sort key). -/
theorem C19_sorted_list_is_in_order (nodes : List ANode) :
    List.Pairwise (fun a b => importSortKey a ≤ importSortKey b) (stableSort importSortKey nodes) :=
  stableSort_sorted importSortKey nodes

/-- Route M for import statements, no certificate: for every import statement of the covered fragment
(items are paths or renamed items; separators, parentheses, white space, comments anywhere) whose items
are already in order — or which is not sorted because it holds a comment or binds a name twice — and for
**every configuration** (reordering on or off), whatever the printer returns renders, at every width and
indent unit, to a layout that holds exactly the tokens and literals of the statement, in source order:
no item is lost, duplicated or moved. -/
theorem C19_fragment_import_keeps_every_item (e : Env) (fuel : Nat) (ctx : Ctx) (hctx : NM ctx) (n : ANode)
    (hk : n.kind = .moduleImport) (hq : inFrag n = true)
    (d : Twin.Doc) (k k' : St) (h : ((knot e fuel).expr ctx n).run k = .ok (d, k')) (u w : Nat) :
    Pretty.tokText (Pretty.best w 0 [⟨0, .brk, d.fam u⟩]) = (specToks n).toList ∧
    Pretty.litText (Pretty.best w 0 [⟨0, .brk, d.fam u⟩]) = (specLit n).toList := by
  have hx : isExpr n = true := by unfold isExpr; rw [hk]; rfl
  have := routeM_expr e fuel ctx hctx n hx hq d k k' h u w
  exact ⟨this.1, this.2.2.2.1⟩

/-- **Every configuration, permuted lists included.**  For an import statement whose parts lie in the
covered fragment (items are paths or renamed items), whatever the printer returns carries — as tokens,
comments, prose, literals, verbatim text, in this order — the part before the items, then the items in
the order `importOrder` gives them: **sorted by key when reordering is on and the statement is sortable,
in source order otherwise**.  So reordering moves whole items and nothing else: no item is lost,
duplicated or altered, and the text before the items is untouched.  (`importPrinted`; no per-case
certificate; `Carries` is what `routeM`'s stream equalities at every width follow from.) -/
theorem C19_fragment_import_prints_items_in_import_order (e : Env) (fuel : Nat) (ctx : Ctx) (hctx : NM ctx)
    (cs : List ANode) (a : Attrs) (hd : a.disabled = false) (hq : inFragL cs = true)
    (hitems : (importFlattened cs).all (fun x => isImportItem x || isCommentKind x.kind || isIgnorable x) = true)
    (d : Twin.Doc) (k k' : St) (h : ((knot e (fuel + 1)).expr ctx (.inner .moduleImport cs a)).run k = .ok (d, k')) :
    Carries d ((specAllL (importPrefix cs)).app (specAllL (importPrinted e.cfg (importFlattened cs)))) := by
  have hr := (knot_frag e fuel).1
  have hp : Post (convExpr e (knot e fuel) ctx (.inner .moduleImport cs a))
      (fun d => Carries d ((specAllL (importPrefix cs)).app (specAllL (importPrinted e.cfg (importFlattened cs))))) := by
    unfold convExpr
    refine Post.bind_any fun _ => ?_
    rw [if_neg (by rw [show (ANode.inner Kind.moduleImport cs a).attrs.disabled = false from hd]; exact Bool.false_ne_true)]
    exact convImport_carries e (knot e fuel) hr impQ_frag ctx hctx cs a (inFragL_lex cs hq)
      (fun c hc => inFragL_mem hq hc) (importItems_ok hq hitems)
  exact hp k d k' h

end Typstyle
