import TypstyleModel.Proofs.Cli
/-! C14 — check mode is read-only and its exit status is truthful.  Every theorem holds for every
library function `lib`, every file tree `w` and every invocation `a` (options, order of inputs). -/
namespace Typstyle.Cli

/-- T14.1: `--check` leaves every file's content and modification mark unchanged — single file,
several files, standard input and `format-all`, with any style options. -/
theorem C14_check_is_read_only (lib : Lib) (a : Args) (w : Entry) (rootName : String) (hc : a.check = true) :
    (run lib a w rootName).world = w := (run_check lib a w rootName hc).1

/-- T14.2: with `--check` no library result (formatted text or echoed input) is ever printed. -/
theorem C14_check_prints_no_formatted_text (lib : Lib) (a : Args) (w : Entry) (rootName : String)
    (hc : a.check = true) : outsOf (run lib a w rootName).evs = [] := (run_check lib a w rootName hc).2

/-- T14.3 (file list): the exit status is 1 exactly when some readable input differs from its
formatted form (erroneous inputs never do) or some input is unreadable, and 0 otherwise. -/
theorem C14_check_exit_files (lib : Lib) (a : Args) (w : Entry) (ps : List Path)
    (hc : a.check = true) (hi : a.inplace = false) :
    (runFiles lib a w ps).exit =
      if (ps.any fun p => match readToString w p with
            | some x => decide (Differs lib a (.text x))
            | none => false) || (ps.any fun p => (readToString w p).isNone) then 1 else 0 := by
  rw [(runFiles_readonly lib a w ps hi).2.2]
  exact exit_check a hc _ _

/-- T14.3 (standard input). -/
theorem C14_check_exit_stdin (lib : Lib) (a : Args) (w : Entry) (input : String)
    (hc : a.check = true) (hi : a.inplace = false) :
    (runStdin lib a w input).exit = if Differs lib a (.text input) then 1 else 0 := by
  rw [(runStdin_spec lib a w input hi).2.2]
  simp [exitOf, hc]

/-- T14.3 (`format-all`): the exit status is 1 exactly when an eligible file (regular, extension
`typ`, not hidden, not below a hidden directory — the directory given may be called anything)
differs from its formatted form or is unreadable, and 0 otherwise; erroneous files count as unchanged. -/
theorem C14_check_exit_format_all (lib : Lib) (a : Args) (w : Entry) (dir : Option Path) (rootName : String)
    (hc : a.check = true) (e : Entry) (he : w.get (dir.getD []) = some e) :
    (runFormatAll lib a w dir rootName).exit =
      if ((eligibleFiles e (dir.getD []) (rootNameOf (dir.getD []) rootName) 0).any fun f => decide (Differs lib a f.2)) ||
         ((eligibleFiles e (dir.getD []) (rootNameOf (dir.getD []) rootName) 0).any fun f => decide (f.2 = .binary))
      then 1 else 0 := by
  rw [(runFormatAll_spec lib a w dir rootName he _ rfl).2.2]
  exact exit_check a hc _ _

end Typstyle.Cli
