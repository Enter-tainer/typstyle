import TypstyleModel.Proofs.Strip
import TypstyleModel.Proofs.Import
import TypstyleModel.Proofs.CommentStable
import TypstyleModel.Proofs.FitNever
/-! C03 — convergence (partial).  The end-to-end statement `format (format x) = format x` needs
the parser (`parse ∘ render`), which is not modelled (DESIGN.md §4 C03).  Proved here: the parts of
the pipeline whose fixed-point behaviour is parser-free. -/
namespace Typstyle

/-- T3.1: the post-pass is idempotent — a second pass never strips anything the first left. -/
theorem C03_strip_idempotent (x : String) : strip (strip x) = strip x := by
  apply String.ext
  rw [strip_toList, strip_toList, stripL_idem]

/-- T3.2 (import reordering converges): the sort key of an import item depends only on the item's
*words* (its text split at white space), so re-spacing an item — all the printer does to it — leaves
its key unchanged (finding F45 was that the key was the source text itself) … -/
theorem C03_import_key_ignores_spacing (a b : ANode)
    (h : wordsL a.intoText.toList = wordsL b.intoText.toList) : importSortKey a = importSortKey b := by
  unfold importSortKey
  rw [h]

/-- … and sorting a sorted list is the identity, so a second pass orders the items as the first did. -/
theorem C03_import_sort_is_idempotent (nodes : List ANode) :
    stableSort importSortKey (stableSort importSortKey nodes) = stableSort importSortKey nodes :=
  stableSort_idem importSortKey nodes

/-! ### T3.2: a list that did not fit is re-read as the list it was printed as

Every list-like construct (arguments, arrays, dictionaries, parameters, destructurings, import
items) is laid out by `ListStylist::print_doc`.  With `FoldStyle::Fit` the renderer decides whether
the list's group is flat or broken; when it is broken the output has a line break after the opening
delimiter, so the second pass sees a "multi-line flavoured" list and uses `FoldStyle::Never`
(`get_fold_style_untyped`).  `L d` is the set of broken-mode layouts of `d` (`Lay .brk d`). -/

/-- Between the delimiters, `Fit` (group broken) and `Never` have exactly the same layouts: the same
atoms in the same order with the same line breaks — for every list of items, every separator and
delimiter, every indent unit (style without `tight_delim`; with it the two differ, which is finding F15). -/
theorem C03_fit_broken_is_never (sty : ListStyle) (ht : sty.tightDelim = false) (count real : Nat) (trailing : Bool)
    (items : List LItem) (u : Nat) :
    let fitInner := (items.foldl (fitStep sty count real trailing) (Twin.line_, 0, 0)).1
    let neverInner := (items.foldl (neverStep sty count) (Twin.hardline, 0)).1
    L ((if !sty.noIndent then fitInner.nstTab else fitInner).fam u) = L ((if !sty.noIndent then neverInner.nstTab else neverInner).fam u) :=
  fit_body_eq_never_body sty ht count real trailing items u

/-- At the level of `print_doc`: whatever the `Never` document can be laid out as, the `Fit` document
can be laid out as too (with its group broken), delimiters included. -/
theorem C03_never_layouts_are_fit_layouts (e : Env) (s : LS) (sty : ListStyle) (ht : sty.tightDelim = false)
    (hs : (s.realCount == 1 && sty.omitDelimSingle) = false) (hlc : s.hasLineComment = false) (u : Nat) (xs : List Pretty.Atom)
    (h : Pretty.Lay .brk (({ s with fold := .never }).print e sty |>.fam u) xs) :
    Pretty.Lay .brk (({ s with fold := .fit }).print e sty |>.fam u) xs :=
  never_layouts_are_fit_layouts e s sty ht hs hlc u xs h

/-- The flavour is reproduced: in every layout of the `Never` body the first atom is a line break
(so `is_multiline_flavor` of the printed list is true again). -/
theorem C03_never_starts_with_a_break (sty : ListStyle) (count : Nat) (items : List LItem) (u : Nat) (xs : List Pretty.Atom)
    (h : Pretty.Lay .brk ((items.foldl (neverStep sty count) (Twin.hardline, 0)).1.fam u) xs) :
    ∃ k rest, xs = Pretty.Atom.nl k :: rest :=
  never_starts_with_break sty count items u xs h

/-- The hypotheses of T3.2 hold for the styles the printer uses for arguments, arrays, dictionaries,
parameters and destructurings (`parenStyle`: no `tight_delim`, no delimiter omission). -/
example (e : Env) : e.parenStyle.tightDelim = false ∧ e.parenStyle.omitDelimSingle = false := ⟨rfl, rfl⟩

/-! ### T3.4: block comments converge

A multi-line block comment is the one place where the printer *reads layout from the source*
(`get_follow_leading`: the common indentation of the continuation lines) and writes layout that
depends on where the comment lands (`align`: the column `col` of the comment).  The text of the
printed comment is `realigned col leading lines` — the first line as it is, every continuation line
with `leading` blanks cut off and `col` blanks put in front (nothing at all for a line that is cut
away entirely).  The theorems say that the second pass reads the printed comment exactly as the first
pass read the source: the same style, and the same document — for every comment text, every column,
every configuration. -/

/-- The aligned style: the indentation read from the printed comment is the comment's column, and
cutting it off again gives the same document. -/
theorem C03_aligned_comment_is_stable (e : Env) (col : Nat) (ls : List String) (leading : Nat)
    (h : followLeadingLines ls = some leading) (hlen : ∀ l ∈ ls, l.length < usizeMax) (hcol : col < usizeMax) :
    followLeadingLines (realigned col leading ls) = some (if leading = usizeMax then usizeMax else col) ∧
    alignLines e (if leading = usizeMax then usizeMax else col) (realigned col leading ls) = alignLines e leading ls :=
  alignLines_realigned e col ls leading h hlen hcol

/-- `alignLines`/`followLeadingLines` are what `align_multiline`/`get_follow_leading` compute. -/
theorem C03_aligned_comment_model (e : Env) (text : String) (leading : Nat) (h : followLeading text = some leading) :
    followLeadingLines (rlines text) = some leading ∧ alignMultiline e text = pure (alignLines e leading (rlines text)) :=
  ⟨(followLeading_eq text) ▸ h, alignMultiline_eq e text leading h⟩

/-- The bullet style (`align_multiline_simple`, continuation lines hang one column right of the
comment's column): the printed comment is converted to the same document. -/
theorem C03_bullet_comment_is_stable (e : Env) (col : Nat) (ls : List String) :
    (realignedSimple col ls).foldl (alignSimpleStep e) (Pretty.Doc.nil, 0) = ls.foldl (alignSimpleStep e) (Pretty.Doc.nil, 0) :=
  alignSimple_realigned e col ls

/-- The choice between the two styles is read the same way from the printed comment. -/
theorem C03_comment_style_is_stable (col : Nat) (ls : List String) :
    bulletStyle (realignedSimple col ls) = bulletStyle ls ∧
    (∀ leading, followLeadingLines ls = some leading → (∀ l ∈ ls, l.length < usizeMax) →
      bulletStyle (realigned col leading ls) = bulletStyle ls) :=
  ⟨bulletStyle_realignedSimple col ls, fun leading h _ => bulletStyle_realigned col ls leading h⟩

/-- The premises are satisfiable, and the second pass of a concrete comment at column 5 indeed reads
indentation 5. -/
example : followLeadingLines ["/* a", "    b", "", "  c */"] = some 2 ∧
    followLeadingLines (realigned 5 2 ["/* a", "    b", "", "  c */"]) = some 5 := by decide

end Typstyle
