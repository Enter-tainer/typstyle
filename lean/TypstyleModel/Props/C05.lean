import TypstyleModel.Model.Range
import TypstyleModel.Proofs.ChainSafe
/-! C05 — totality.  Every function of the model (attributes, printer, renderer, post-pass, range
entry point, CLI) is a total Lean function: termination is checked by the kernel (structural
recursion on fuel / trees, and the size measures of `fitting` and `best`). -/
namespace Typstyle
open Pretty

/-- The renderer terminates with a result for every document and width (no fuel). -/
theorem C05_renderer_total (w : Nat) (d : Doc) : ∃ s : String, pretty w d = s := ⟨_, rfl⟩

/-- The library pipeline after the syntax-error check returns for every tree and configuration:
either text or an explicit rejection value (never divergence). -/
theorem C05_format_total (cfg : Config) (wd : String → Nat) (root : Node) :
    (∃ out, format cfg wd root = .ok out) ∨ (∃ r, format cfg wd root = .error r) := by
  cases h : format cfg wd root with
  | ok o => exact Or.inl ⟨o, rfl⟩
  | error r => exact Or.inr ⟨r, rfl⟩

/-- A computation never fails at a panic site of the implementation. -/
def NoPanic {α : Type} (x : M α) : Prop := ∀ s site, x.run s ≠ .error (.panic site)

theorem NoPanic.pure {α : Type} (a : α) : NoPanic (pure a : M α) := by
  intro s site h; cases h

theorem NoPanic.bind {α β : Type} {x : M α} {f : α → M β} (hx : NoPanic x) (hf : ∀ a, NoPanic (f a)) :
    NoPanic (x >>= f) := by
  intro s site h
  rw [M.run_bind] at h
  cases hxr : x.run s with
  | error e => rw [hxr] at h; cases h; exact hx s site hxr
  | ok p => rw [hxr] at h; exact hf p.1 p.2 site h

/-- `get_follow_leading(text).unwrap()` (comment.rs:71) cannot fail where it is called: the plain
alignment is only chosen when some continuation line does not start with `*`, so there is a
continuation line.  `unreachable!` (comment.rs:24) is not reached for a comment node.  Hence the
comment converter has no reachable panic site — for every comment text whatsoever (any Unicode, any
line-ending style, any indentation). -/
theorem C05_comment_conversion_never_panics (e : Env) (n : ANode) (hk : isCommentKind n.kind = true) :
    NoPanic (convComment e n) := by
  unfold convComment
  split
  · exact NoPanic.pure _
  · split
    · dsimp only
      split
      · exact NoPanic.pure _
      · split
        · exact NoPanic.pure _
        · rename_i hb
          refine NoPanic.bind ?_ (fun d => NoPanic.pure _)
          unfold alignMultiline
          split
          · rename_i hfl
            -- no continuation line ⇒ the bullet test is vacuously true: contradiction
            exfalso
            apply hb
            unfold followLeading at hfl
            split at hfl
            · rename_i hd
              simp [hd]
            · cases hfl
          · exact NoPanic.pure _
    · rename_i h1 h2
      exfalso
      simp only [isCommentKind, Bool.or_eq_true, beq_iff_eq] at hk
      rcases hk with h | h
      · exact h1 (by simp [h])
      · exact h2 (by simp [h])

/-- The byte slice `&line[leading..]` of `align_multiline` is on a character boundary: `leading`
is a minimum over counts of leading ASCII blanks, so the model's `drop leading` on characters removes
exactly `leading` one-byte characters whenever the line has at least that many leading blanks. -/
theorem C05_leading_blanks_are_single_bytes (l : List Char) :
    ((l.takeWhile (· == ' ')).map Char.utf8Size).sum = (l.takeWhile (· == ' ')).length := by
  induction l with
  | nil => rfl
  | cons c cs ih =>
    simp only [List.takeWhile_cons]
    split
    · rename_i h
      have hc : c = ' ' := by simpa using h
      subst hc
      simp only [List.map_cons, List.sum_cons, List.length_cons, ih]
      have : Char.utf8Size ' ' = 1 := by decide
      omega
    · rfl

/-! ### the chain stylist's `docs.remove(0)` (chain.rs:214) -/

/-- Whatever the operand predicate and the operator, operand and fallback converters do, the first
item `ChainStylist::process` records is never an attached comment (a comment is attached only once a
body has been seen) — for every list of chain nodes. -/
theorem C05_chain_first_item_is_not_an_attached_comment (e : Env) (ctx : Ctx) (nodes : List ANode) (operandPred : ANode → Bool)
    (opConv : Bool → ANode → M (Bool × Option Twin.Doc)) (rhsConv : Ctx → ANode → M (Option Twin.Doc))
    (fallback : Ctx → ANode → M (Option Twin.Doc)) :
    Post (CS.processM e {} ctx nodes operandPred opConv rhsConv fallback) (fun cs => headOK cs.items = true) :=
  processM_head nodes {} rfl

/-- … and then `print_doc` has a first document to remove: the only partial operation of the chain
stylist is not reached for a chain that has any item at all (binary chains, dot chains; an *empty*
chain — no operand and no fallback — is the residual parser assumption). -/
theorem C05_chain_print_never_panics (e : Env) (cs : CS) (noBreakSingle spaceAroundOp : Bool)
    (hne : cs.items ≠ []) (hh : headOK cs.items = true) :
    ∀ s site, (cs.print e noBreakSingle spaceAroundOp).run s ≠ .error (.panic site) :=
  chain_print_no_panic e cs noBreakSingle spaceAroundOp hne hh

/-- The premises of `C05_chain_print_never_panics` are satisfiable (a chain with one body), and the
excluded case is exactly the one that would panic: an attached comment with nothing before it. -/
example (d : Twin.Doc) : ([CItem.body d] ≠ []) ∧ headOK [CItem.body d] = true := ⟨by simp, rfl⟩
example (d : Twin.Doc) : headOK [CItem.attached d] = false := rfl

end Typstyle
