import TypstyleModel.Proofs.CarriesList
import TypstyleModel.Proofs.Table
/-! `table` / `grid` calls: the plain argument list of a table that is not reflowed
(`convert_parenthesized_args_as_list`) and the row layout of one that is (`convert_table`). -/
namespace Typstyle
open Twin

/-- The document an item of the plain stylist holds (separators and line breaks are printed afresh). -/
def PItem.doc : PItem → Doc
  | .item d | .lineComment d | .blockComment d => d
  | .comma | .linebreak _ => Doc.nil

def PItemsCarry (items : List PItem) (s : Streams) : Prop := DocsCarry (items.map PItem.doc) s

theorem PItemsCarry.push {items : List PItem} {sp s : Streams} (h : PItemsCarry items sp) {it : PItem}
    (hit : Carries it.doc s) : PItemsCarry (items ++ [it]) (sp.app s) := by
  unfold PItemsCarry
  rw [List.map_append]
  exact h.snoc hit

theorem plainStep_carries (e : Env) {f : Flow} {s : Streams} (hf : Carries f.doc s) (it : PItem) (hg : it.doc.good = true) :
    Carries (plainStep e f it).doc (s.app it.doc.ss) := by
  cases it with
  | item d => exact Flow.push_carries hf ⟨hg, rfl⟩
  | comma => exact Flow.push_carries hf (Carries.soft e "," (by decide))
  | linebreak n => exact Flow.push_carries hf (Carries.repeatN Carries.hardline n)
  | lineComment d => exact Flow.push_carries hf ⟨hg, rfl⟩
  | blockComment d => exact Flow.push_carries hf ⟨hg, rfl⟩

theorem plainPrint_carries (e : Env) {items : List PItem} (ml : Bool) {s : Streams} (h : PItemsCarry items s) :
    Carries (plainPrint e items ml) s := by
  obtain ⟨hg, rfl⟩ := h
  unfold plainPrint
  have := foldl_sem_ok (sem := fun it : PItem => it.doc.ss) (semL := fun l => docsS (l.map PItem.doc)) rfl (fun _ _ => rfl)
    (okL := fun l => docsGood (l.map PItem.doc)) (fun _ _ => rfl) (I := fun (f : Flow) s => Carries f.doc s)
    (fun f s it hf hg => plainStep_carries e hf it hg) items hg {} {} Carries.nil
  rw [Streams.empty_app] at this
  split
  · simpa using this.enclose Carries.hardline Carries.hardline
  · exact this

theorem dropTrailingPLinebreaks_carries {items : List PItem} {s : Streams} (h : PItemsCarry items s) :
    PItemsCarry (dropTrailingPLinebreaks items) s :=
  have := Streams.semL_dropTrailing (sem := fun it : PItem => it.doc.ss) (semL := fun l => docsS (l.map PItem.doc)) rfl (fun _ _ => rfl)
    (ok := fun it => it.doc.good) (okL := fun l => docsGood (l.map PItem.doc)) rfl (fun _ _ => rfl)
    (p := fun | .linebreak _ => true | _ => false) (fun x h => by cases x with | linebreak _ => rfl | _ => cases h) items
  ⟨this.2 h.1, this.1.trans h.2⟩

variable {Q : ANode → Prop} {e : Env} {r : Rec} {ctx : Ctx}

theorem plainArgStep_carries (harg : ∀ x, Q x → isArg x = true → Post (convArg e r ctx x) (fun d => Carries d (specAll x)))
    {acc : List PItem × Bool} {s : Streams} (h : PItemsCarry acc.1 s)
    {child : ANode} (hlex : ANode.tokensAreLeaves child = true) (hq : Q child)
    (hk : (isArg child || isPassable child) = true) :
    Post (plainArgStep e r ctx acc child) (fun r' => PItemsCarry r'.1 (s.app (specAll child))) := by
  obtain ⟨items, ml⟩ := acc
  have hign : isIgnorable child = true → PItemsCarry items (s.app (specAll child)) := fun hi => by
    rw [specAll_ignorable child hlex hi, Streams.app_empty]; exact h
  have hcmt : isCommentKind child.kind = true → ∀ d, Carries d (commentS child.text) → Carries d (specAll child) := fun hck d hd => by
    rw [specAll_comment child hlex hck]; exact hd
  unfold plainArgStep
  simp only
  split
  · rename_i hkc
    have hi : isIgnorable child = true := isIgnorable_of_kind hkc rfl
    rw [specAll_ignorable child hlex hi]
    exact Post.pure (h.push (it := .comma) Carries.nil)
  · rename_i hkc
    have hi : isIgnorable child = true := isIgnorable_of_kind hkc rfl
    split
    · split
      · rw [specAll_ignorable child hlex hi]
        exact Post.pure (h.push (it := .linebreak _) Carries.nil)
      · exact Post.pure (hign hi)
    · exact Post.pure (hign hi)
  · rename_i hkc
    have hck : isCommentKind child.kind = true := by rw [hkc]; rfl
    exact Post.bind (commentOK e child hck) (fun d hd => Post.pure (h.push (it := .lineComment d) (hcmt hck d hd)))
  · rename_i hkc
    have hck : isCommentKind child.kind = true := by rw [hkc]; rfl
    exact Post.bind (commentOK e child hck) (fun d hd => Post.pure (h.push (it := .blockComment d) (hcmt hck d hd)))
  · rename_i h1 h2 h3 h4
    split
    · rename_i ha
      exact Post.bind (harg child hq ha) (fun d hd => Post.pure (h.push (it := .item d) hd))
    · rename_i ha
      simp only [isPassable, isCommentKind, Bool.or_eq_true, beq_iff_eq] at hk
      exact Post.pure (hign ((hk.resolve_left ha).resolve_left (not_or.mpr ⟨h3, h4⟩)))

/-- What `is_formatable` accepting an argument list means: named arguments first, then positional
ones, no spread. -/
theorem formatableGo_split : ∀ (items : List ANode) (seen b : Bool), formatableGo items seen = some b →
    ∃ N P, items = N ++ P ∧ (∀ x ∈ N, x.kind = .named) ∧ (∀ x ∈ P, x.kind ≠ .named ∧ x.kind ≠ .spread) ∧ (seen = true → N = [])
  | [], _, _, _ => ⟨[], [], rfl, nofun, nofun, fun _ => rfl⟩
  | it :: rest, seen, b, h => by
    unfold formatableGo at h
    split at h
    · rename_i hk
      split at h
      · cases h
      · rename_i hseen
        obtain ⟨N, P, hnp, hN, hP, _⟩ := formatableGo_split rest seen b h
        exact ⟨it :: N, P, by rw [hnp]; rfl, List.forall_mem_cons.mpr ⟨by simpa using hk, hN⟩, hP, fun hs => absurd hs hseen⟩
    · rename_i hk
      split at h
      · cases h
      · rename_i hs
        split at h
        · cases h
        · obtain ⟨N, P, hnp, _, hP, hNnil⟩ := formatableGo_split rest true b h
          cases hNnil rfl
          exact ⟨[], it :: P, by rw [hnp]; rfl, nofun, List.forall_mem_cons.mpr ⟨⟨by simpa using hk, by simpa using hs⟩, hP⟩, fun _ => rfl⟩

theorem filters_of_split (N P : List ANode) (hN : ∀ x ∈ N, x.kind = .named) (hP : ∀ x ∈ P, x.kind ≠ .named ∧ x.kind ≠ .spread) :
    (N ++ P).filter (fun a => a.kind == .named) = N ∧
    (N ++ P).filter (fun a => !(a.kind == .named || a.kind == .spread)) = P := by
  constructor
  · rw [List.filter_append, List.filter_eq_self.mpr (fun x hx => by simp [hN x hx]),
      List.filter_eq_nil_iff.mpr (fun x hx => by simp [(hP x hx).1]), List.append_nil]
  · rw [List.filter_append, List.filter_eq_nil_iff.mpr (fun x hx => by simp [hN x hx]),
      List.filter_eq_self.mpr (fun x hx => by simp [(hP x hx).1, (hP x hx).2]), List.nil_append]

section
variable (harg : ∀ x, Q x → isArg x = true → Post (convArg e r ctx x) (fun d => Carries d (specAll x)))
include harg

theorem tableCellStep_carries {ncells : Nat} {hasNext : Bool} {acc : Doc × Nat} {s : Streams} (ha : Carries acc.1 s)
    {c : ANode} (hc : Q c ∧ isArg c = true) :
    Post (tableCellStep e r ctx ncells hasNext acc c) (fun acc' => Carries acc'.1 (s.app (specAll c))) := by
  obtain ⟨rowDoc, ci⟩ := acc
  unfold tableCellStep
  refine Post.bind (harg c hc.1 hc.2) (fun d hd => Post.pure ?_)
  simpa using ((ha.app hd).app (Carries.soft e "," (by decide))).app (Carries.ite Carries.line (Carries.ite Carries.line_ Carries.nil))

theorem tableRowDocStep_carries {nrows : Nat} {acc : Doc × Nat} {s : Streams} (ha : Carries acc.1 s) {row : List ANode}
    (hall : ∀ x ∈ row, Q x ∧ isArg x = true) :
    Post (tableRowDocStep e r ctx nrows acc row) (fun acc' => Carries acc'.1 (s.app (specAllL row))) := by
  obtain ⟨d0, ri⟩ := acc
  unfold tableRowDocStep
  have hcells := Post.foldlM_sem_ok specAllL_nil specAllL_cons (step := tableCellStep e r ctx row.length (ri + 1 < nrows))
    (I := fun acc s => Carries acc.1 s) (fun _ _ _ h hc => tableCellStep_carries harg h hc) row hall (Doc.nil, 0) {} Carries.nil
  refine Post.bind hcells (fun rd hrd => Post.pure ?_)
  simpa using ha.app (hrd.grp.app (Carries.ite Carries.hardline Carries.nil))

theorem tableRows_carries {rows : List (List ANode)} (hall : ∀ x ∈ rows.flatten, Q x ∧ isArg x = true)
    {doc : Doc} {s0 : Streams} (hdoc : Carries doc s0) :
    Post (rows.foldlM (tableRowDocStep e r ctx rows.length) (doc, 0)) (fun d => Carries d.1 (s0.app (specAllL rows.flatten))) :=
  Post.foldlM_sem_ok (sem := specAllL) (semL := fun l => specAllL l.flatten) rfl
    (fun row l => by rw [List.flatten_cons, specAllL_append]) (I := fun acc s => Carries acc.1 s)
    (fun _ _ _ ha hrow => tableRowDocStep_carries harg ha hrow) rows
    (fun row hrow x hx => hall x (List.mem_flatten.mpr ⟨row, hrow, hx⟩)) (doc, 0) s0 hdoc

end

theorem tableNamed_carries (hnamed : ∀ x, Q x → x.kind = .named → Post (convNamed e r ctx x) (fun d => Carries d (specAll x)))
    {nameds : List ANode} (hall : ∀ x ∈ nameds, Q x ∧ x.kind = .named) :
    Post (nameds.foldlM (tableNamedStep e r ctx) Twin.hardline) (fun d => Carries d (specAllL nameds)) := by
  refine (Post.foldlM_sem_ok specAllL_nil specAllL_cons (I := fun acc s => Carries acc s) (fun acc s c ha hc => ?_)
    nameds hall _ {} Carries.hardline).mono (fun _ h => by simpa using h)
  unfold tableNamedStep
  refine Post.bind (hnamed c hc.1 hc.2) (fun d hd => Post.pure ?_)
  simpa using ha.app ((hd.app (Carries.soft e "," (by decide))).app Carries.hardline)

theorem convParenArgsAsList_carries (e : Env) (r : Rec) (ctx : Ctx)
    (harg : ∀ x, Q x → isArg x = true → Post (convArg e r (ctx.withMode .codeCont) x) (fun d => Carries d (specAll x)))
    (args : ANode)
    (hall : ∀ x ∈ parenArgsUntyped args, ANode.tokensAreLeaves x = true ∧ Q x ∧ (isArg x || isPassable x) = true) :
    Post (convParenArgsAsList e r ctx args) (fun d => Carries d (specAllL (parenArgsUntyped args))) := by
  unfold convParenArgsAsList
  refine Post.bind (Post.foldlM_sem_ok specAllL_nil specAllL_cons (I := fun acc s => PItemsCarry acc.1 s)
    (fun _ _ _ h hc => plainArgStep_carries harg h hc.1 hc.2.1 hc.2.2) _ hall _ {} ⟨rfl, rfl⟩) (fun acc hacc => Post.pure ?_)
  have hp := soft_delims e
  simpa using ((plainPrint_carries e acc.2 (dropTrailingPLinebreaks_carries hacc)).nstTab).enclose hp.1 hp.2.1

/-- The streams of the parenthesised part of a formatable table: named arguments, then cells. -/
theorem table_split {Pn rest : List ANode} {b : Bool}
    (hlex : ∀ x ∈ Pn, ANode.tokensAreLeaves x = true) (hP : (Pn.all fun x => isArg x || isPassable x) = true)
    (hnc : ∀ x ∈ Pn, isCommentKind x.kind = false) (hrest : ∀ x ∈ rest, (x.kind == .named) = false)
    (hform : formatableGo (Pn.filter isArg) false = some b) :
    specAllL Pn = (specAllL (((Pn ++ rest).filter isArg).filter (fun a => a.kind == .named))).app
      (specAllL ((Pn.filter isArg).filter (fun a => !(a.kind == .named || a.kind == .spread)))) := by
  obtain ⟨N, P', hnp, hN, hP', _⟩ := formatableGo_split _ _ _ hform
  have hf := filters_of_split N P' hN hP'
  rw [← hnp] at hf
  have h1 : ((Pn ++ rest).filter isArg).filter (fun a => a.kind == .named) = N := by
    rw [List.filter_append, List.filter_append, hf.1,
      List.filter_eq_nil_iff.mpr (fun x hx => by simp [hrest x (List.mem_filter.mp hx).1]), List.append_nil]
  rw [h1, hf.2, ← specAllL_append, ← hnp]
  -- what is no argument is a delimiter, a separator or white space
  refine (specAllL_filter isArg Pn fun x hx hna => specAll_ignorable x (hlex x hx) ?_).symm
  simpa [isPassable, hna, hnc x hx] using List.all_eq_true.mp hP x hx

theorem convTable_carries (e : Env) (r : Rec) (ctx : Ctx)
    (harg : ∀ x, Q x → isArg x = true → Post (convArg e r (ctx.withMode .codeCont) x) (fun d => Carries d (specAll x)))
    (hnamed : ∀ x, Q x → x.kind = .named → Post (convNamed e r (ctx.withMode .codeCont) x) (fun d => Carries d (specAll x)))
    (fc args : ANode) (hfind : lastWhere fc (fun x => x.kind == .args) = some args) (cols : Nat)
    (hlex : ANode.tokensAreLeavesL args.children = true) (hq : ∀ x ∈ args.children, Q x)
    (hnc : args.children.any (fun c => isCommentKind c.kind) = false)
    (hP : ((args.children.takeWhile (·.kind != .rightParen)).all fun x => isArg x || isPassable x) = true)
    (hrest : ∀ x ∈ args.children.dropWhile (·.kind != .rightParen), (x.kind == .named) = false)
    {b : Bool} (hform : formatableGo ((args.children.takeWhile (·.kind != .rightParen)).filter isArg) false = some b) :
    Post (convTable e r ctx fc cols) (fun d => Carries d (specAllL (args.children.takeWhile (·.kind != .rightParen)))) := by
  have hsub := (List.takeWhile_sublist (·.kind != .rightParen) (l := args.children)).subset
  have hsp := table_split (fun x hx => tokensAreLeavesL_mem hlex (hsub hx)) hP
    (fun x hx => Bool.eq_false_iff.mpr (List.any_eq_false.mp hnc x (hsub hx))) hrest hform
  rw [List.takeWhile_append_dropWhile] at hsp
  unfold convTable
  simp only [hfind, childOr, M.pure_bind]
  refine Post.bind (tableNamed_carries hnamed (fun x hx =>
    ⟨hq x (List.mem_filter.mp (List.mem_filter.mp hx).1).1, by simpa using (List.mem_filter.mp hx).2⟩)) (fun doc hdoc => ?_)
  refine Post.bind (tableRows_carries harg ?_ hdoc) (fun d hd => Post.pure ?_)
  · rw [tableRows_flatten]
    exact fun x hm => ⟨hq x (hsub (List.mem_filter.mp (List.mem_filter.mp hm).1).1), (List.mem_filter.mp (List.mem_filter.mp hm).1).2⟩
  · rw [tableRows_flatten, ← hsp] at hd
    have hp := soft_delims e
    simpa using ((hd.nstTab).app Carries.hardline).enclose hp.1 hp.2.1

end Typstyle
