import TypstyleModel.Model.Cert
import TypstyleModel.Proofs.Lay
/-! R3∞: with unbounded width the renderer's decisions do not depend on positions,
so scaling every indentation step scales every line-break indentation and nothing else. -/
namespace Pretty

/-- `fitting` at unbounded width: only hard line breaks matter. -/
def fittingInf (fcmds : List Doc) (mode : Mode) (rest : List Cmd) : Bool :=
  match fcmds with
  | [] =>
    match rest with
    | [] => true
    | c :: rest' => fittingInf [c.doc] .brk rest'
  | d :: fs =>
    match d with
    | .nil => fittingInf fs mode rest
    | .append a b => fittingInf (a :: b :: fs) mode rest
    | .hardline => mode == .brk
    | .text _ _ _ => fittingInf fs mode rest
    | .flatAlt b f => fittingInf (pick mode b f :: fs) mode rest
    | .nest _ d => fittingInf (d :: fs) mode rest
    | .group d => fittingInf (d :: fs) mode rest
    | .align d => fittingInf (d :: fs) mode rest
termination_by docsSize fcmds + cmdsSize rest
decreasing_by
  all_goals simp only [docsSize, cmdsSize, Doc.size]
  all_goals try omega
  all_goals (have := pick_size_lt mode b f; omega)

/-- `best` at unbounded width. Documents with `align` are excluded by the theorem below. -/
def bestInf (pos : Nat) (cmds : List Cmd) : List Atom :=
  match cmds with
  | [] => []
  | ⟨i, m, d⟩ :: rest =>
    match d with
    | .nil => bestInf pos rest
    | .append a b => bestInf pos (⟨i, m, a⟩ :: ⟨i, m, b⟩ :: rest)
    | .flatAlt b f => bestInf pos (⟨i, m, pick m b f⟩ :: rest)
    | .group d =>
      let m' := if m = .brk ∧ fittingInf [d] .flat rest then Mode.flat else m
      bestInf pos (⟨i, m', d⟩ :: rest)
    | .nest n d => bestInf pos (⟨addInd i n, m, d⟩ :: rest)
    | .align d => bestInf pos (⟨pos, m, d⟩ :: rest)
    | .hardline =>
      match rest with
      | [] => [.nl i]
      | c :: rest' => .nl c.ind :: bestInf c.ind (c :: rest')
    | .text s len t => .txt s t :: bestInf (pos + len) rest
termination_by cmdsSize cmds
decreasing_by
  all_goals simp only [cmdsSize, Doc.size]
  all_goals try omega
  all_goals (have := pick_size_lt m b f; omega)

theorem pick_map (g : Doc → Doc) (m : Mode) (b f : Doc) : pick m (g b) (g f) = g (pick m b f) := by
  cases m <;> rfl

theorem pick_le (g : Doc → Nat) (m : Mode) (b f : Doc) : g (pick m b f) ≤ g b + g f := by
  cases m <;> simp [pick]

/-- At unbounded width the documents fit unless, laid out flat, they meet a hard line break; what follows
them plays no part (it is read in broken mode, where a hard line break ends the search with success). -/
theorem fittingInf_iff (fcmds : List Doc) (mode : Mode) (rest : List Cmd) :
    fittingInf fcmds mode rest = true ↔ (mode = .flat → AllNH fcmds) := by
  fun_induction fittingInf fcmds mode rest <;> simp only [AllNH, FlatNoHard, true_and, and_assoc, *]
  case case1 | case2 => simp
  case case5 mode _ _ => cases mode <;> simp
  case case7 mode _ _ b f _ => cases mode <;> simp [pick]

theorem fittingInf_flat_congr {d d' : Doc} (h : FlatNoHard d' ↔ FlatNoHard d) (rest : List Cmd) {rest' : List Cmd} :
    fittingInf [d'] .flat rest' = fittingInf [d] .flat rest :=
  Bool.eq_iff_iff.mpr (by simp only [fittingInf_iff, AllNH, and_true, h])

def NoAlign : Doc → Prop
  | .nil | .text _ _ _ | .hardline => True
  | .append a b => NoAlign a ∧ NoAlign b
  | .group d => NoAlign d
  | .flatAlt b f => NoAlign b ∧ NoAlign f
  | .nest n d => 0 ≤ n ∧ NoAlign d
  | .align _ => False

def scaleCmd (u : Nat) (c : Cmd) : Cmd := ⟨c.ind * u, c.mode, scale u c.doc⟩
def scaleAtom (u : Nat) : Atom → Atom
  | .txt s t => .txt s t
  | .nl k => .nl (k * u)

theorem noAlign_pick (m : Mode) {b f : Doc} (hb : NoAlign b) (hf : NoAlign f) : NoAlign (pick m b f) := by
  cases m <;> simpa [pick]

def CmdsNoAlign (cmds : List Cmd) : Prop := ∀ c ∈ cmds, NoAlign c.doc

theorem flatNoHard_scale (u : Nat) (d : Doc) : FlatNoHard (scale u d) ↔ FlatNoHard d := by
  induction d <;> simp only [scale, FlatNoHard, *]

theorem addInd_scale (u i : Nat) (n : Int) (hn : 0 ≤ n) : addInd (i * u) (n * u) = addInd i n * u := by
  obtain ⟨k, rfl⟩ := Int.eq_ofNat_of_zero_le hn
  simp [addInd, ← Int.natCast_mul, Int.natCast_nonneg, Nat.add_mul]

/-- R3∞. -/
theorem bestInf_scale (u : Nat) (pos pos' : Nat) (cmds : List Cmd) (h : CmdsNoAlign cmds) :
    bestInf pos' (cmds.map (scaleCmd u)) = (bestInf pos cmds).map (scaleAtom u) := by
  fun_induction bestInf pos cmds generalizing pos' <;>
    simp only [CmdsNoAlign, List.forall_mem_cons, NoAlign, List.map_cons, List.map_nil, scaleCmd, scale,
      scaleAtom] at * <;> rw [bestInf]
  case case2 ih | case10 ih => rw [ih _ h.2]
  case case3 ih => exact ih _ ⟨h.1.1, h.1.2, h.2⟩
  case case4 m _ b f ih => rw [pick_map (scale u)]; exact ih _ ⟨noAlign_pick m h.1.1 h.1.2, h.2⟩
  case case5 rest d _ ih =>
    rw [fittingInf_flat_congr (flatNoHard_scale u d) rest]
    exact ih _ h
  case case6 i _ _ n _ ih => rw [addInd_scale u i n h.1.1]; exact ih _ ⟨h.1.2, h.2⟩
  case case7 => exact h.1.elim
  case case9 ih => exact congrArg _ (ih _ h.2)

end Pretty
