import TypstyleModel.Model.Printer.Knot
/-! The attribute and numbering passes do not touch the text of the tree. -/
namespace Typstyle

mutual
/-- `SyntaxNode::into_text()` of the raw tree: the source text (the parser is lossless). -/
def Node.intoText : Node → String
  | .leaf _ t => t
  | .inner _ cs => Node.intoTextL cs
def Node.intoTextL : List Node → String
  | [] => ""
  | c :: cs => Node.intoText c ++ Node.intoTextL cs
end

theorem setDisabled_intoText (n : ANode) : n.setDisabled.intoText = n.intoText := by
  cases n <;> rfl

mutual
theorem annotate_intoText : ∀ (u : Bool) (n : Node), (annotate u n).intoText = n.intoText
  | _, .leaf _ _ => rfl
  | u, .inner k cs => by
    simp only [annotate, ANode.intoText, Node.intoText]
    exact annotateKids_intoText u false false cs
theorem annotateKids_intoText : ∀ (u d c : Bool) (ns : List Node),
    ANode.intoTextL (annotateKids u d c ns).1 = Node.intoTextL ns
  | _, _, _, [] => rfl
  | u, d, c, n :: rest => by
    -- every branch puts the annotated (and possibly marked) head before the annotated rest
    have ih := fun d c => annotateKids_intoText u d c rest
    have ia := fun b => annotate_intoText b n
    unfold annotateKids
    split
    · simp only [ANode.intoTextL, Node.intoTextL, ia, ih]
    · split <;> split <;> simp only [ANode.intoTextL, Node.intoTextL, setDisabled_intoText, ia, ih]
end

mutual
theorem number_intoText : ∀ (n : ANode) (k : Nat), (number n k).1.intoText = n.intoText
  | .leaf _ _ _, _ => rfl
  | .inner kd cs a, k => by
    simp only [number, ANode.intoText]
    exact numberL_intoText cs (k + 1)
theorem numberL_intoText : ∀ (ns : List ANode) (k : Nat), ANode.intoTextL (numberL ns k).1 = ANode.intoTextL ns
  | [], _ => rfl
  | n :: rest, k => by
    simp only [numberL, ANode.intoTextL, number_intoText n k, numberL_intoText rest (number n k).2]
end

/-- The prepared tree has the text of the raw tree. -/
theorem prepare_intoText (root : Node) : (prepare root).intoText = root.intoText := by
  unfold prepare
  rw [number_intoText, annotate_intoText]

end Typstyle
