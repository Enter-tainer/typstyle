import TypstyleModel.Model.Cert
import TypstyleModel.Proofs.Lay
/-! Soundness of the `lcSafe` certificate (C04/C06 route V): if `lcSafe d`, then at no width does
the renderer put non-blank text after an open line comment on the same line. -/
namespace Pretty

theorem run_append (o : Bool) (xs ys : List Atom) :
    run o (xs ++ ys) = (run o xs).bind (fun o' => run o' ys) := by
  induction xs generalizing o with
  | nil => rfl
  | cons x xs ih =>
    cases x with
    | nl k => exact ih false
    | txt s t =>
      simp only [List.cons_append, run]
      split
      · exact ih o
      · split
        · rfl
        · exact ih _

theorem Out.has_union {a b : Out} {r : Option Bool} (h : a.has r = true ∨ b.has r = true) :
    (a.union b).has r = true := by
  cases r with
  | none => simpa [Out.union, Out.has] using h
  | some v => cases v <;> simpa [Out.union, Out.has] using h

theorem Summ.seq_has {f g : Summ} {o : Bool} {r : Option Bool} {r' : Bool → Option Bool}
    (h1 : (f o).has r = true) (h2 : ∀ o', (g o').has (r' o') = true) :
    ((f.seq g) o).has (r.bind r') = true := by
  -- `seq` as a union: the violation of `f`, `g` from closed if `f` may end closed, `g` from open if it may end open
  show (((Out.mk (f o).viol false false).union (if (f o).closed then g false else .empty)).union
    (if (f o).opn then g true else .empty)).has _ = true
  cases r with
  | none => exact Out.has_union (.inl (Out.has_union (.inl h1)))
  | some o' =>
    cases o'
    · refine Out.has_union (.inl (Out.has_union (.inr ?_)))
      rw [if_pos (show (f o).closed = true from h1)]
      exact h2 false
    · refine Out.has_union (.inr ?_)
      rw [if_pos (show (f o).opn = true from h1)]
      exact h2 true

theorem summ_sound {m : Mode} {d : Doc} {xs : List Atom} (h : Lay m d xs) :
    ∀ o, ((summ m d) o).has (run o xs) = true := by
  induction h with
  | nil => intro o; cases o <;> rfl
  | @text m s len t =>
    intro o
    simp only [summ, run]
    split
    · cases o <;> rfl
    · cases o
      · simp only [Bool.false_eq_true, if_false]
        split <;> simp_all [Out.has]
      · rfl
  | hardline => intro o; rfl
  | @append m a b xs ys _ _ iha ihb =>
    intro o
    rw [run_append]
    exact Summ.seq_has (iha o) ihb
  | @groupSame m d xs _ ih =>
    intro o
    cases m
    · exact Out.has_union (.inl (ih o))
    · exact ih o
  | groupFlat _ ih => intro o; exact Out.has_union (.inr (ih o))
  | flatAltB _ ih => exact ih
  | flatAltF _ ih => exact ih
  | @nest m n d xs _ ih => cases m <;> exact ih
  | @align m d xs _ ih => cases m <;> exact ih

theorem lcSafe_sound (d : Doc) (h : lcSafe d = true) (w : Nat) :
    run false (best w 0 [⟨0, .brk, d⟩]) ≠ none := by
  intro hn
  have hv : (summ .brk d false).has none = true := hn ▸ summ_sound (pretty_lay w d) false
  simp [lcSafe, show (summ .brk d false).viol = true from hv] at h

end Pretty
