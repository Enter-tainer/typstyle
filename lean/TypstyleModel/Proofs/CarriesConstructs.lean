import TypstyleModel.Proofs.CarriesComment
/-! Per-construct theorems (route M): if the child converters carry what each child prescribes, the
construct carries what the node prescribes — all five streams (code tokens, comments, prose, literals,
verbatim text), for every layout, width and indent unit (`Twin.Doc.emits`). -/
namespace Typstyle
open Twin

theorem plain_of_beq {c : ANode} {k : Kind} (h : (c.kind == k) = true) (hk : k.isPlainToken = true) :
    c.kind.isPlainToken = true := by rw [beq_iff_eq.mp h]; exact hk

theorem flowContribS_specAll (c : ANode) (h : ANode.tokensAreLeaves c = true) : flowContribS specAll c = specAll c := by
  unfold flowContribS
  simp only
  split
  next hk =>
    simp only [Bool.and_eq_true, Bool.not_eq_true'] at hk
    exact (specAll_plain c h (Kind.isPlainToken_of_keyword hk.1 hk.2)).symm
  split
  · exact (specAll_comment c h ‹_›).symm
  split
  · exact (specAll_plain c h (plain_of_beq ‹_› rfl)).symm
  · rfl

theorem contribL_specAll (cs : List ANode) (h : ANode.tokensAreLeavesL cs = true) : contribL specAll cs = specAllL cs := by
  induction cs with
  | nil => simp [contribL]
  | cons c cs ih =>
    simp only [ANode.tokensAreLeavesL, Bool.and_eq_true] at h
    rw [contribL, specAllL_cons, flowContribS_specAll c h.1, ih h.2]

/-- The flow theorem in the form its users need: each child contributes what it prescribes.  That a blank
prescribes nothing follows from the lexical shape, whatever the producer's contract. -/
theorem flowM_specAllH {σ : Type} {e : Env} {ctx : Ctx} {producer : σ → Ctx → ANode → M (σ × Option FlowItem)}
    {okc : Ctx → ANode → Prop} (hp : ProducerH producer specAll okc) (cs : List ANode)
    (hlex : ANode.tokensAreLeavesL cs = true) (hok : okSeq okc ctx false cs) (st : σ) :
    Post (flowM e ctx cs st producer) (fun d => Carries d (specAllL cs)) := by
  rw [← contribL_specAll cs hlex]
  exact flowM_carriesH (okc := fun c x => okc c x ∧ ANode.tokensAreLeaves x = true) (commentOK e) (fun st c x h => hp st c x h.1)
    (fun _ c h => specAll_space c h.2) cs (okSeq_and _ ctx cs false hok fun _ hc => tokensAreLeavesL_mem hlex hc) st

theorem flowM_specAll {σ : Type} {e : Env} {ctx : Ctx} {producer : σ → Ctx → ANode → M (σ × Option FlowItem)}
    {ok : ANode → Prop} (hp : ProducerS producer specAll ok) (hctx : NM ctx) (cs : List ANode)
    (hlex : ANode.tokensAreLeavesL cs = true) (hok : ∀ c ∈ cs, ok c) (st : σ) :
    Post (flowM e ctx cs st producer) (fun d => Carries d (specAllL cs)) :=
  flowM_specAllH (okc := fun c x => NM c ∧ ok x) (fun st c x h => hp st c x h.1 h.2) cs hlex
    (okSeq_of_forall cs (fun c hc => .inr fun hh => ⟨hctx.withModeIf hh, hok c hc⟩) false) st

/-- The child converters carry what each child prescribes, for children that satisfy `Q`
(the induction hypothesis of the knot: `Q` = "is in the covered fragment"). -/
structure RecOK (r : Rec) (Q : ANode → Prop) : Prop where
  expr : ∀ ctx c, NM ctx → isExpr c = true → Q c → Post (r.expr ctx c) (fun d => Carries d (specAll c))
  pattern : ∀ ctx c, NM ctx → isPattern c = true → Q c → Post (r.pattern ctx c) (fun d => Carries d (specAll c))
  paren : ∀ ctx c, NM ctx → c.kind = .parenthesized → c.attrs.disabled = false → Q c → Post (r.paren ctx c) (fun d => Carries d (specAll c))
  markup : ∀ ctx c scope, NM ctx → c.kind = .markup → Q c → Post (r.markup ctx c scope) (fun d => Carries d (specAll c))

def ChildOK (Q : ANode → Prop) (c : ANode) : Prop := ANode.tokensAreLeaves c = true ∧ Q c

theorem isPattern_of_isExpr {c : ANode} (h : isExpr c = true) : isPattern c = true := by
  unfold isPattern; simp [h]

/-- A leaf that is printed as a fixed constant: the model checks the leaf's text, so the constant
carries what the leaf prescribes. -/
theorem synLeaf_carries (e : Env) (c : ANode) (s : String) (h : ANode.tokensAreLeaves c = true) (hp : c.kind.isPlainToken = true) :
    Post (e.synLeaf c s) (fun d => Carries d (specAll c)) := by
  refine Post.ite (fun ht => Post.pure ((Carries.mkText e.wd .syn s).congr ?_)) (fun _ => Post.rejected)
  rw [specAll_plain c h hp, tagS_syn_eq_tok, eq_of_beq ht]

theorem synNode_carries {e : Env} {n : ANode} (s : String) (h : n.intoText = s → specAll n = tagS .syn s) :
    Post (e.synNode n s) (fun d => Carries d (specAll n)) := by
  unfold Env.synNode
  refine Post.ite (fun ht => ?_) (fun _ => Post.rejected)
  rw [h (eq_of_beq ht)]
  exact Post.pure (Carries.mkText e.wd .syn s)

theorem tok_carries (e : Env) (c : ANode) (h : ANode.tokensAreLeaves c = true) (hp : c.kind.isPlainToken = true) :
    Carries (e.tok c.text) (specAll c) :=
  (Carries.mkText e.wd .tok c.text).congr (specAll_plain c h hp).symm

/-- A token whose text the lexer fixes, printed as that constant without a look at the leaf. -/
theorem fixedTok_carries (e : Env) {c : ANode} {s : String} (hlex : ANode.tokensAreLeaves c = true) (hf : c.kind.fixedTok = some s) :
    Carries (e.syn s) (specAll c) :=
  (Carries.mkText e.wd .syn s).congr ((tagS_syn_eq_tok s).trans (specAll_fixedTok c hlex hf).symm)

theorem specAll_ident_node (c : ANode) (h : ANode.tokensAreLeaves c = true) (hk : c.kind = .ident) :
    specAll c = tagS .lit c.text := by
  rw [token_eq_leaf h (by rw [hk]; rfl), hk]; exact specAll_tagged_leaf .ident _ _ rfl

theorem ident_carries (e : Env) {c : ANode} (h : ANode.tokensAreLeaves c = true) (hk : c.kind = .ident) :
    Carries (e.lit c.text) (specAll c) := by
  rw [specAll_ident_node c h hk]; exact Carries.mkText e.wd .lit c.text

theorem specAll_semicolon (c : ANode) (h : ANode.tokensAreLeaves c = true) (hk : c.kind = .semicolon) : specAll c = {} :=
  specAll_fixedText c h (s := ";") (by rw [hk]; rfl)

/-! Every producer is a cascade of tests on the child's kind; each branch answers in one of five ways: a
constant for a plain token (`synLeaf_carries`), the token's own text (`tok_carries`), a recursive
conversion (`RecOK`), nothing for white space or a separator that prescribes nothing, or a rejection. -/

/-! Named and spread arguments occur in code and in math: their producers need of a child its lexical shape,
and that the recursive converters carry it where they are called. -/

/-- How the producers end: a blank is taken and gives nothing, anything else is rejected. -/
theorem space_or_reject {σ : Type} {st : σ} {child : ANode} (hlex : ANode.tokensAreLeaves child = true) {rj : Reject} :
    Post (if child.kind == .space then pure (st, none) else reject rj : M (σ × Option FlowItem)) fun r =>
      match r.2 with
      | some it => Carries it.doc (specAll child)
      | none => specAll child = {} :=
  Post.ite (fun hk => Post.pure (specAll_space child hlex (beq_iff_eq.mp hk))) fun _ => Post.rejected

/-- The same with the `;` that may end a named, keyed or spread argument. -/
theorem space_semi_or_reject {σ : Type} {st : σ} {child : ANode} (hlex : ANode.tokensAreLeaves child = true) {rj : Reject} :
    Post (if child.kind == .space then pure (st, none) else if child.kind == .semicolon then pure (st, none) else reject rj :
        M (σ × Option FlowItem)) fun r =>
      match r.2 with
      | some it => Carries it.doc (specAll child)
      | none => specAll child = {} :=
  Post.ite (fun hk => Post.pure (specAll_space child hlex (beq_iff_eq.mp hk))) fun _ =>
  Post.ite (fun hk => Post.pure (specAll_semicolon child hlex (beq_iff_eq.mp hk))) fun _ => Post.rejected

section
variable (e : Env) (r : Rec) {c : Ctx} {child : ANode} (hlex : ANode.tokensAreLeaves child = true)
  (hx : isExpr child = true → Post (r.expr c child) (fun d => Carries d (specAll child)))
include hlex hx

theorem namedProducer_needs
    (hp : ¬isExpr child = true → isPattern child = true → Post (r.pattern c child) (fun d => Carries d (specAll child))) (st : Bool) :
    Post (namedProducer e r st c child) fun r =>
      match r.2 with
      | some it => Carries it.doc (specAll child)
      | none => specAll child = {} :=
  Post.ite (fun hk => Post.map (synLeaf_carries e child ":" hlex (plain_of_beq hk rfl))) fun _ =>
  Post.ite (fun h => Post.map (hx h)) fun hnx =>
  Post.ite (fun h => Post.map (hp hnx h)) fun _ =>
  space_semi_or_reject hlex

theorem spreadProducer_needs (st : Unit) :
    Post (spreadProducer e r st c child) fun r =>
      match r.2 with
      | some it => Carries it.doc (specAll child)
      | none => specAll child = {} :=
  Post.ite (fun hk => Post.map (synLeaf_carries e child ".." hlex (plain_of_beq hk rfl))) fun _ =>
  Post.ite (fun h => Post.map (hx h)) fun _ =>
  space_semi_or_reject hlex

end

section
variable {Q : ANode → Prop} (e : Env) (r : Rec) (hr : RecOK r Q)
include hr

theorem namedProducer_ok : ProducerS (namedProducer e r) specAll (ChildOK Q) := fun st c child hnm hok =>
  namedProducer_needs e r hok.1 (fun hx => hr.expr c child hnm hx hok.2) (fun _ hp => hr.pattern c child hnm hp hok.2) st

theorem keyedProducer_ok : ProducerS (keyedProducer e r) specAll (ChildOK Q) := fun _ c child hnm hok =>
  Post.ite (fun hk => Post.map (synLeaf_carries e child ":" hok.1 (plain_of_beq hk rfl))) fun _ =>
  Post.ite (fun hx => Post.map (hr.expr c child hnm hx hok.2)) fun _ =>
  space_semi_or_reject hok.1

theorem spreadProducer_ok : ProducerS (spreadProducer e r) specAll (ChildOK Q) := fun st c child hnm hok =>
  spreadProducer_needs e r hok.1 (fun hx => hr.expr c child hnm hx hok.2) st

theorem unaryProducer_ok (isOpKw : Bool) : ProducerS (unaryProducer e r isOpKw) specAll (ChildOK Q) := fun _ c child hnm hok =>
  Post.ite (fun hk => Post.pure (tok_carries e child hok.1 (by
    simp only [Bool.or_eq_true] at hk
    rcases hk with (hk | hk) | hk <;> exact plain_of_beq hk rfl))) fun _ =>
  Post.ite (fun hx => Post.ite (fun _ => Post.map (hr.expr c child hnm hx hok.2)) fun _ => Post.map (hr.expr c child hnm hx hok.2)) fun _ =>
  space_or_reject hok.1

theorem letProducer_ok : ProducerS (letProducer e r) specAll (ChildOK Q) := fun _ c child hnm hok =>
  Post.ite (fun hk => Post.map (synLeaf_carries e child "=" hok.1 (plain_of_beq hk rfl))) fun _ =>
  Post.ite (fun hx => Post.map (hr.pattern c child hnm hx hok.2)) fun _ =>
  space_or_reject hok.1

omit e in
theorem exprFlowProducer_ok (what : String) : ProducerS (exprFlowProducer r what) specAll (ChildOK Q) := fun _ c child hnm hok =>
  Post.ite (fun hx => Post.map (hr.expr c child hnm hx hok.2)) fun _ =>
  space_or_reject hok.1

theorem showProducer_ok : ProducerS (showProducer e r) specAll (ChildOK Q) := fun _ c child hnm hok =>
  Post.ite (fun hk => Post.map (synLeaf_carries e child ":" hok.1 (plain_of_beq hk rfl))) fun _ =>
  Post.ite (fun hx => Post.map (hr.expr c child hnm hx hok.2)) fun _ =>
  space_or_reject hok.1

theorem headingProducer_ok : ProducerS (headingProducer e r) specAll (ChildOK Q) := fun _ c child hnm hok =>
  Post.ite (fun hk => Post.pure (tok_carries e child hok.1 (plain_of_beq hk rfl))) fun _ =>
  Post.ite (fun hk => Post.map (hr.markup c child .item hnm (beq_iff_eq.mp hk) hok.2)) fun _ =>
  space_or_reject hok.1

end

theorem flow_construct_carries {σ : Type} {Q : ANode → Prop} (e : Env) (ctx : Ctx) (k : Kind) (cs : List ANode) (a : Attrs) (st : σ)
    (producer : σ → Ctx → ANode → M (σ × Option FlowItem))
    (hp : ProducerS producer specAll (ChildOK Q))
    (hv : isVerbatimNode k cs a = false) (hraw : k ≠ .raw)
    (hw : ANode.tokensAreLeavesL cs = true) (hq : ∀ c ∈ cs, Q c) (hctx : NM ctx) :
    Post (flowM e ctx cs st producer) (fun d => Carries d (specAll (.inner k cs a))) := by
  rw [specAll_inner k cs a hv hraw]
  exact flowM_specAll hp hctx cs hw (fun c hc => ⟨tokensAreLeavesL_mem hw hc, hq c hc⟩) st

theorem listItemProducer_ok {Q : ANode → Prop} (e : Env) (r : Rec) (hr : RecOK r Q) :
    ProducerS (listItemProducer e r) specAll (fun c => ChildOK Q c ∧ (c.kind = .markup → c.children.isEmpty = true → specAll c = {})) := by
  intro st c child hnm hok
  unfold listItemProducer
  split
  next hk => exact Post.pure (tok_carries e child hok.1.1 (by rw [hk]; rfl))
  next hk => exact Post.pure (tok_carries e child hok.1.1 (by rw [hk]; rfl))
  next hk => exact Post.pure (tok_carries e child hok.1.1 (by rw [hk]; rfl))
  next hk => exact Post.pure (tok_carries e child hok.1.1 (by rw [hk]; rfl))
  next hk =>
    split
    · exact Post.pure (by rw [specAll_space child hok.1.1 hk]; exact Carries.hardline)
    · exact Post.pure (specAll_space child hok.1.1 hk)
  next hk => exact Post.pure (by rw [specAll_parbreak child hok.1.1 hk]; exact Carries.repeatN Carries.hardline _)
  next hk =>
    split
    next => exact Post.map (hr.markup c child .item hnm hk hok.1.2)
    next he => exact Post.pure (hok.2 hk (by simpa using he))
  next => exact Post.rejected

theorem verb_inner_carries (e : Env) {k : Kind} {cs : List ANode} {a : Attrs} (hd : a.disabled = true)
    (hx : k.isExpr = true ∨ k = .destructuring) :
    Carries (e.verbNode (.inner k cs a)) (specAll (.inner k cs a)) := by
  have hv : isVerbatimNode k cs a = true := by
    rcases hx with hx | hx <;> simp [isVerbatimNode, hd, hx]
  exact (Carries.mkText e.wd .verbatim _).congr (specAll_verbatim k cs a hv).symm

end Typstyle
