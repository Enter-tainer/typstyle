import TypstyleModel.Model.Printer.Code
/-! T2.2 (C02): the table reflow (`convert_table`) distributes the positional arguments over rows
without losing, duplicating or reordering a cell, and no row is longer than a positive column count. -/
namespace Typstyle

theorem tableRowStep_flatten (columns : Nat) (acc : List (List ANode) × List ANode) (arg : ANode) :
    (tableRowStep columns acc arg).1.flatten ++ (tableRowStep columns acc arg).2 = acc.1.flatten ++ acc.2 ++ [arg] := by
  obtain ⟨rows, row⟩ := acc
  unfold tableRowStep
  simp only
  split <;> split <;> simp [List.flatten_append]

theorem foldl_tableRowStep_flatten (columns : Nat) (args : List ANode) (acc : List (List ANode) × List ANode) :
    (args.foldl (tableRowStep columns) acc).1.flatten ++ (args.foldl (tableRowStep columns) acc).2 = acc.1.flatten ++ acc.2 ++ args := by
  induction args generalizing acc with
  | nil => simp
  | cons a args ih => rw [List.foldl_cons, ih, tableRowStep_flatten]; simp

theorem tableRows_flatten (columns : Nat) (posArgs : List ANode) :
    (if !(posArgs.foldl (tableRowStep columns) (([] : List (List ANode)), ([] : List ANode))).2.isEmpty
      then (posArgs.foldl (tableRowStep columns) ([], [])).1 ++ [(posArgs.foldl (tableRowStep columns) ([], [])).2]
      else (posArgs.foldl (tableRowStep columns) ([], [])).1).flatten = posArgs := by
  have := foldl_tableRowStep_flatten columns posArgs ([], [])
  simp only [List.flatten_nil, List.nil_append] at this
  split
  · rw [List.flatten_append]; simpa using this
  · rename_i he
    rwa [show (posArgs.foldl (tableRowStep columns) ([], [])).2 = [] by simpa using he, List.append_nil] at this

/-- Invariant of the row builder: closed rows have at most `columns` cells, the open row fewer. -/
def RowsOK (columns : Nat) (acc : List (List ANode) × List ANode) : Prop :=
  (∀ r ∈ acc.1, r.length ≤ columns) ∧ acc.2.length < columns

theorem tableRowStep_ok (columns : Nat) (acc : List (List ANode) × List ANode) (arg : ANode) (h : RowsOK columns acc) :
    RowsOK columns (tableRowStep columns acc arg) := by
  obtain ⟨rows, row⟩ := acc
  obtain ⟨h1, h2⟩ := h
  simp only at h1 h2
  have close : ∀ {rows : List (List ANode)} {row : List ANode}, (∀ r ∈ rows, r.length ≤ columns) → row.length ≤ columns →
      RowsOK columns (rows ++ [row], []) := fun hr hl =>
    ⟨fun r hr' => (List.mem_append.mp hr').elim (hr r) fun h => by rw [List.mem_singleton.mp h]; exact hl, Nat.zero_lt_of_lt h2⟩
  have hlen : (row ++ [arg]).length = row.length + 1 := by simp
  have step1 : RowsOK columns (if (row ++ [arg]).length == columns then (rows ++ [row ++ [arg]], []) else (rows, row ++ [arg])) := by
    split
    · exact close h1 (by omega)
    · rename_i hne
      exact ⟨h1, by simp only [beq_iff_eq] at hne; show (row ++ [arg]).length < columns; omega⟩
  unfold tableRowStep
  simp only
  generalize (if (row ++ [arg]).length == columns then (rows ++ [row ++ [arg]], []) else (rows, row ++ [arg])) = acc1 at step1
  split
  · exact close step1.1 (Nat.le_of_lt step1.2)
  · exact step1

end Typstyle
