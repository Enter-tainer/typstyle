import TypstyleModel.Proofs.Carries
/-! What membership in the covered fragment (Model/Fragment.lean) says of a node.  `fragShape k cs` is what `inFrag`
demands of the children `cs` of an inner node of kind `k`, besides lying in the fragment themselves; `fragShapeM` the
same for `inFragM`.  At a given kind both compute to the shape predicate of that kind, so that only `inFrag_shape` and
`inFragM_shape` look into the disjunctions over the inner kinds in `inFrag` / `inFragM`. -/
namespace Typstyle
open Twin

def fragShape (k : Kind) (cs : List ANode) : Bool :=
  match k with
  | .equation => eqShapeB cs
  | .binary => binChildrenOK cs
  | .fieldAccess => dotChildrenOK cs
  | .moduleImport => importShapeB cs
  | .loopBreak | .loopContinue => loopShapeB cs
  | .codeBlock => listChildrenOK .codeBlock cs || codeBodyDisabled cs
  | .array | .dict | .parenthesized | .contentBlock | .strong | .emph | .raw | .ref | .funcCall => listChildrenOK k cs
  | .unary | .letBinding | .destructAssignment | .showRule | .contextual | .conditional | .whileLoop | .funcReturn
  | .moduleInclude | .heading | .listItem | .enumItem | .termItem | .setRule | .closure | .forLoop => true
  -- the kinds of the fragment that are no expressions
  | .markup | .args | .params | .destructuring => listChildrenOK k cs
  | .named | .keyed | .spread | .code | .importItemPath | .renamedImportItem | .importItems => true
  | _ => false

section
variable {k : Kind} {cs : List ANode} {a : Attrs}

/-- `listChildrenOK` accepts only kinds of the fragment, and `fragShape` asks no more of them. -/
theorem fragShape_of_listChildren (h : listChildrenOK k cs = true) : fragShape k cs = true := by
  unfold listChildrenOK at h
  split at h
  case h_4 => exact Bool.or_eq_true_iff.mpr (Or.inl h)  -- `.codeBlock`, where `fragShape` has an alternative
  case h_15 => cases h  -- the `_ => false` arm
  all_goals exact h

/-- Clause by clause of `inFrag`. -/
theorem inFrag_shape (h : inFrag (.inner k cs a) = true) : fragShape k cs = true := by
  -- a class `p` of kinds of which `fragShape` asks nothing: its table read beside that of `fragShape`
  have cls : ∀ {p : Kind → Bool}, (p k && !fragShape k cs) = false → p k = true → fragShape k cs = true :=
    fun ht hp => by simpa [hp] using ht
  simp only [inFrag, Bool.and_eq_true, Bool.or_eq_true, beq_iff_eq, or_assoc] at h
  rcases h.1 with hf | he | ⟨_, hL⟩ | rfl | ⟨_, hL⟩ | hi | rfl | rfl | rfl |
    ⟨rfl, hs⟩ | ⟨rfl, hs⟩ | hp | ⟨rfl, hs⟩ | ⟨rfl | rfl, hs⟩ | ⟨rfl, hs⟩ | ⟨rfl, hs⟩
  · exact cls (by unfold Kind.isFragFlow; split <;> rfl) hf
  · exact cls (by unfold Kind.isFragElem; split <;> rfl) he
  · exact fragShape_of_listChildren hL
  · rfl
  · exact fragShape_of_listChildren hL
  · exact cls (by unfold Kind.isFragItem; split <;> rfl) hi
  · rfl
  · rfl
  · rfl
  · exact hs
  · exact hs
  · exact cls (by unfold Kind.isImportPart; split <;> rfl) hp
  · exact hs
  · exact hs
  · exact hs
  · exact Bool.or_eq_true_iff.mpr (Or.inr hs)
  · exact hs

theorem fragShape_innerKind (h : fragShape k cs = true) : k.isInnerKind = true := by
  unfold fragShape at h
  split at h
  rotate_right
  · cases h
  all_goals rfl

theorem inFrag_children (h : inFrag (.inner k cs a) = true) (hk : k ≠ .equation) : inFragL cs = true := by
  simp only [inFrag, beq_false_of_ne hk, Bool.false_eq_true, ↓reduceIte, Bool.and_eq_true] at h
  exact h.2

theorem inFrag_equation (h : inFrag (.inner .equation cs a) = true) : inFragEq cs = true := by
  simp only [inFrag, beq_self_eq_true, ↓reduceIte, Bool.and_eq_true] at h
  exact h.2

end

/-- A leaf of an inner kind in the fragment stands for an empty `Markup`, `Code` or `ImportItems`. -/
theorem inFrag_leaf_ne {k : Kind} {t : String} {a : Attrs} (h : inFrag (.leaf k t a) = true) {k0 : Kind}
    (hi : k0.isInnerKind = true) (hne : k0 ≠ .markup ∧ k0 ≠ .code ∧ k0 ≠ .importItems) : k ≠ k0 := by
  rintro rfl
  simp only [inFrag, hi, Bool.not_true, Bool.false_or, Bool.and_eq_true, Bool.or_eq_true, beq_iff_eq] at h
  rcases h.2.1 with (h1 | h1) | h1
  · exact hne.1 h1
  · exact hne.2.1 h1
  · exact hne.2.2 h1

theorem inFrag_leaf_text {k : Kind} {t : String} {a : Attrs} (h : inFrag (.leaf k t a) = true) (hi : k.isInnerKind = true) :
    t = "" := by
  simp only [inFrag, hi, Bool.not_true, Bool.false_or, Bool.and_eq_true, beq_iff_eq] at h
  exact h.2.2

theorem inFrag_inner_of_kind {x : ANode} {k0 : Kind} (hq : inFrag x = true) (hk : x.kind = k0) (hi : k0.isInnerKind = true)
    (hne : k0 ≠ .markup ∧ k0 ≠ .code ∧ k0 ≠ .importItems) : ∃ cs a, x = .inner k0 cs a := by
  cases x with
  | leaf k t a => exact absurd hk (inFrag_leaf_ne hq hi hne)
  | inner k cs a => exact ⟨cs, a, by rw [← hk]; rfl⟩

def fragShapeM (k : Kind) (cs : List ANode) : Bool :=
  match k with
  | .funcCall => mathCallShapeB cs
  | .mathAttach | .mathRoot | .mathFrac | .math => true
  | .mathPrimes => cs.all (fun c => c.kind == .prime)
  | .mathDelimited => delimShapeB cs
  | .array => rowShapeB cs
  | .fieldAccess => dotChildrenOK cs && !(cs.any fun c => isCommentKind c.kind)
  | _ => false

section
variable {k : Kind} {cs : List ANode} {a : Attrs}

theorem inFragM_call : inFragM (.inner .funcCall cs a) = (mathCallShapeB cs && inFragMCallL cs) := by
  simp [inFragM]

theorem inFragM_children (h : inFragM (.inner k cs a) = true) (hk : k ≠ .funcCall) : inFragMS false cs = true := by
  simp only [inFragM, beq_false_of_ne hk, Bool.false_eq_true, ↓reduceIte, Bool.and_eq_true] at h
  exact h.2

theorem inFragM_shape (h : inFragM (.inner k cs a) = true) : fragShapeM k cs = true := by
  by_cases hk : k = .funcCall
  · subst hk
    rw [inFragM_call] at h
    exact (Bool.and_eq_true_iff.mp h).1
  · simp only [inFragM, beq_false_of_ne hk, Bool.false_eq_true, ↓reduceIte, Bool.and_eq_true, Bool.or_eq_true, beq_iff_eq,
      or_assoc] at h
    rcases h.1 with hf | rfl | ⟨rfl, hs⟩ | ⟨rfl, hs⟩ | ⟨rfl, hs⟩ | ⟨⟨rfl, hd⟩, hc⟩
    · unfold Kind.isMathFlow at hf
      split at hf
      rotate_right
      · cases hf
      all_goals rfl
    · rfl
    · exact hs
    · exact hs
    · exact hs
    · exact Bool.and_eq_true_iff.mpr ⟨hd, hc⟩

theorem fragShapeM_innerKind (h : fragShapeM k cs = true) : k.isInnerKind = true := by
  unfold fragShapeM at h
  split at h
  rotate_right
  · cases h
  all_goals rfl

end

theorem inFragM_leaf_text {k : Kind} {t : String} {a : Attrs} (h : inFragM (.leaf k t a) = true) (hi : k.isInnerKind = true) :
    t = "" := by
  simp only [inFragM, hi, Bool.not_true, Bool.false_or, Bool.and_eq_true, beq_iff_eq] at h
  exact h.2.2

theorem inFragM_leaf_eq {k : Kind} (t : String) (a : Attrs) (hm : k ≠ .math) (ha : k ≠ .array) :
    inFragM (.leaf k t a) = inFrag (.leaf k t a) := by
  simp only [inFragM, inFrag, beq_false_of_ne hm, beq_false_of_ne ha, Bool.or_false]

theorem inFragMCallL_cons {c : ANode} (cs : List ANode) (hc : ∀ acs a, c ≠ .inner .args acs a) :
    inFragMCallL (c :: cs) = (inFragM c && inFragMCallL cs) := inFragMCallL.eq_3 c cs hc

/-- What `inFragMS` and `inFragMA` ask of one child of a math sequence (`hh`: the previous sibling is `#`). -/
def mathChildB (hh : Bool) (c : ANode) : Bool :=
  if isExpr c then (if hh then inFrag c else inFragM c)
  else ANode.tokensAreLeaves c && (c.kind == .space || c.kind == .hash || isCommentKind c.kind || c.kind.isPlainToken || c.kind == .underscore)

theorem mathChild_lex {c : ANode} {hh : Bool} (h : mathChildB hh c = true)
    (hq : inFrag c = true → ANode.tokensAreLeaves c = true) (hqm : inFragM c = true → ANode.tokensAreLeaves c = true) :
    ANode.tokensAreLeaves c = true := by
  rcases ite_true_cases h with ⟨_, h⟩ | ⟨_, h⟩
  · rcases ite_true_cases h with ⟨_, h⟩ | ⟨_, h⟩
    · exact hq h
    · exact hqm h
  · exact (Bool.and_eq_true_iff.mp h).1

theorem mathChild_expr {c : ANode} (h : mathChildB false c = true) (hx : isExpr c = true) : inFragM c = true := by
  simpa [mathChildB, hx] using h

mutual
theorem inFrag_lex : (n : ANode) → inFrag n = true → ANode.tokensAreLeaves n = true
  | .leaf k t a, h => by
    simp only [inFrag, Bool.and_eq_true] at h; exact h.1.1
  | .inner k cs a, h => by
    simp only [ANode.tokensAreLeaves, Bool.and_eq_true]
    refine ⟨fragShape_innerKind (inFrag_shape h), ?_⟩
    by_cases hk : k = .equation
    · subst hk
      exact inFragEq_lex cs (inFrag_equation h)
    · exact inFragL_lex cs (inFrag_children h hk)
theorem inFragL_lex : (cs : List ANode) → inFragL cs = true → ANode.tokensAreLeavesL cs = true
  | [], _ => rfl
  | c :: cs, h => by
    simp only [inFragL, Bool.and_eq_true] at h
    simp only [ANode.tokensAreLeavesL, Bool.and_eq_true]
    exact ⟨inFrag_lex c h.1, inFragL_lex cs h.2⟩
theorem inFragEq_lex : (cs : List ANode) → inFragEq cs = true → ANode.tokensAreLeavesL cs = true
  | [], _ => rfl
  | c :: cs, h => by
    simp only [inFragEq, Bool.and_eq_true] at h
    simp only [ANode.tokensAreLeavesL, Bool.and_eq_true]
    refine ⟨?_, inFragEq_lex cs h.2⟩
    rcases ite_true_cases h.1 with ⟨_, h1⟩ | ⟨_, h1⟩
    · exact inFragM_lex c h1
    · exact inFrag_lex c h1
theorem inFragM_lex : (n : ANode) → inFragM n = true → ANode.tokensAreLeaves n = true
  | .leaf k t a, h => by
    simp only [inFragM, Bool.and_eq_true] at h; exact h.1.1
  | .inner k cs a, h => by
    simp only [ANode.tokensAreLeaves, Bool.and_eq_true]
    refine ⟨fragShapeM_innerKind (inFragM_shape h), ?_⟩
    by_cases hk : k = .funcCall
    · subst hk
      rw [inFragM_call] at h
      exact inFragMCallL_lex cs (Bool.and_eq_true_iff.mp h).2
    · exact inFragMS_lex false cs (inFragM_children h hk)
theorem inFragMCallL_lex : (cs : List ANode) → inFragMCallL cs = true → ANode.tokensAreLeavesL cs = true
  | [], _ => rfl
  | (.leaf k t a) :: cs, h => by
    rw [inFragMCallL_cons cs (fun _ _ he => ANode.noConfusion he)] at h
    simp only [Bool.and_eq_true] at h
    simp only [ANode.tokensAreLeavesL, Bool.and_eq_true]
    exact ⟨inFragM_lex _ h.1, inFragMCallL_lex cs h.2⟩
  | (.inner k ics a) :: cs, h => by
    simp only [ANode.tokensAreLeavesL, Bool.and_eq_true]
    by_cases hk : k = .args
    · subst hk
      simp only [inFragMCallL, Bool.and_eq_true] at h
      simp only [ANode.tokensAreLeaves, Bool.and_eq_true]
      exact ⟨⟨rfl, inFragMA_lex false ics h.1⟩, inFragMCallL_lex cs h.2⟩
    · rw [inFragMCallL_cons cs (fun _ _ he => hk (ANode.inner.inj he).1)] at h
      simp only [Bool.and_eq_true] at h
      exact ⟨inFragM_lex _ h.1, inFragMCallL_lex cs h.2⟩
theorem inFragMS_lex : (hh : Bool) → (cs : List ANode) → inFragMS hh cs = true → ANode.tokensAreLeavesL cs = true
  | _, [], _ => rfl
  | hh, c :: cs, h => by
    simp only [inFragMS, Bool.and_eq_true] at h
    simp only [ANode.tokensAreLeavesL, Bool.and_eq_true]
    exact ⟨mathChild_lex h.1 (inFrag_lex c) (inFragM_lex c), inFragMS_lex _ cs h.2⟩
theorem inFragMA_lex : (hh : Bool) → (cs : List ANode) → inFragMA hh cs = true → ANode.tokensAreLeavesL cs = true
  | _, [], _ => rfl
  | hh, (.leaf k t a) :: cs, h => by
    simp only [inFragMA, Bool.and_eq_true] at h
    simp only [ANode.tokensAreLeavesL, Bool.and_eq_true]
    refine ⟨?_, inFragMA_lex _ cs h.2⟩
    rcases ite_true_cases h.1 with ⟨_, h1⟩ | ⟨_, h1⟩
    · cases h1
    · exact mathChild_lex h1 (inFrag_lex _) (inFragM_lex _)
  | hh, (.inner k ccs a) :: cs, h => by
    simp only [inFragMA, Bool.and_eq_true] at h
    simp only [ANode.tokensAreLeavesL, Bool.and_eq_true]
    refine ⟨?_, inFragMA_lex _ cs h.2⟩
    rcases ite_true_cases h.1 with ⟨hk, h1⟩ | ⟨_, h1⟩
    · simp only [Bool.and_eq_true] at h1
      simp only [ANode.tokensAreLeaves, Bool.and_eq_true]
      refine ⟨?_, inFragMS_lex false ccs h1.1.2⟩
      simp only [ANode.kind, Bool.or_eq_true, beq_iff_eq] at hk
      rcases hk with hk | hk <;> (rw [hk]; rfl)
    · exact mathChild_lex h1 (inFrag_lex _) (inFragM_lex _)
end

theorem inFragL_mem {cs : List ANode} (h : inFragL cs = true) {c : ANode} (hc : c ∈ cs) : inFrag c = true :=
  List.all_eq_true.mp (Bool.allL_eq_all (pL := inFragL) rfl (fun _ _ => rfl) cs ▸ h) c hc

theorem inFragL_append (a b : List ANode) : inFragL (a ++ b) = (inFragL a && inFragL b) :=
  Bool.allL_append rfl (fun _ _ => rfl) a b

/-- The membership predicates at which the theorems about the constructs, stated for abstract `Q` and `QM`, are used. -/
abbrev Q : ANode → Prop := fun c => inFrag c = true
abbrev QM : ANode → Prop := fun c => inFragM c = true

theorem inFrag_inner {k : Kind} {cs : List ANode} {a : Attrs} (h : inFrag (.inner k cs a) = true) (hk : k ≠ .equation) :
    fragShape k cs = true ∧ ANode.tokensAreLeavesL cs = true ∧ ∀ c ∈ cs, inFrag c = true :=
  ⟨inFrag_shape h, inFragL_lex cs (inFrag_children h hk), fun _ => inFragL_mem (inFrag_children h hk)⟩

theorem inFrag_children_mem {x : ANode} (hq : inFrag x = true) (hk : x.kind ≠ .equation) : ∀ c ∈ x.children, inFrag c = true := by
  cases x with
  | leaf _ _ _ => intro c hc; cases hc
  | inner k cs a => exact (inFrag_inner hq hk).2.2

/-- An empty `Markup`, `ImportItems` or `Code` node may be a leaf. -/
theorem specAll_body {c : ANode} (hq : inFrag c = true)
    (hk : c.kind = .markup ∨ c.kind = .importItems ∨ c.kind = .code ∧ c.attrs.disabled = false) :
    specAll c = specAllL c.children := by
  cases c with
  | leaf k t a =>
    rw [inFrag_leaf_text hq (by rcases hk with hk | hk | ⟨hk, _⟩ <;> (cases hk; rfl))]
    exact specAll_empty_leaf k a
  | inner k cs a =>
    rcases hk with hk | hk | ⟨hk, hd⟩ <;> cases hk
    · exact specAll_never_verbatim cs a rfl
    · exact specAll_never_verbatim cs a rfl
    · exact specAll_enabled cs hd rfl

end Typstyle
