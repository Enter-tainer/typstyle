import TypstyleModel.Proofs.CarriesFlow
import TypstyleModel.Proofs.Tokens
/-! Raw elements (route M): `convert_raw` — copied as a whole, or rebuilt from fence, language tag and
text lines with the trimmed white space re-synthesised — carries what the `Raw` node prescribes; so does
what is printed for the marker of a reference. -/
namespace Typstyle
open Twin

theorem tagS_lit_append (a b : String) : tagS .lit (a ++ b) = (tagS .lit a).app (tagS .lit b) := by
  simp [tagS_eq, Streams.app, keepOf_append]

theorem tagS_lit_empty : tagS .lit "" = {} := tagS_empty .lit

/-- What a child of a raw element contributes when the element is rebuilt: fence, language tag and text
lines their text as a literal; trimmed white space (re-synthesised) nothing. -/
def rawItemS (c : ANode) : Streams :=
  if c.kind == .rawDelim || c.kind == .rawLang || c.kind == .text then tagS .lit c.intoText else {}

def rawS : List ANode → Streams
  | [] => {}
  | c :: cs => (rawItemS c).app (rawS cs)

theorem rawChild_spec (c : ANode) (h : rawChildOK c = true) :
    specToks c = Pretty.keepOf c.intoText ∧ specCmts c = "" ∧ specVerb c = "" ∧
    rawItemS c = ⟨specToks c, "", "", (if c.kind == .rawDelim || c.kind == .rawLang || c.kind == .text then c.intoText else ""), ""⟩ := by
  cases c with
  | inner _ _ _ => cases h
  | leaf k t a =>
    simp only [rawChildOK, Bool.or_eq_true, beq_iff_eq, Bool.and_eq_true] at h
    -- fence, language tag and trimmed white space are code tokens, a text line is prose
    have hs : ∃ p, specAll (.leaf k t a) = ⟨Pretty.keepOf t, "", p, "", ""⟩ := by
      rcases h with ((rfl | rfl) | rfl) | ⟨rfl, -⟩
      · exact ⟨"", by rw [specAll_plain_leaf _ t a rfl]; simp [tagS_eq]⟩
      · exact ⟨"", by rw [specAll_plain_leaf _ t a rfl]; simp [tagS_eq]⟩
      · exact ⟨t, by rw [specAll_tagged_leaf _ t a (tag := .prose) rfl]; simp [tagS_eq]⟩
      · exact ⟨"", by rw [specAll_plain_leaf _ t a rfl]; simp [tagS_eq]⟩
    obtain ⟨p, hs⟩ := hs
    obtain ⟨h1, h2, -, -, h3⟩ := Streams.mk.inj hs
    refine ⟨h1, h2, h3, ?_⟩
    rw [h1]
    rcases h with ((rfl | rfl) | rfl) | ⟨rfl, hb⟩
    · simp [rawItemS, ANode.kind, ANode.intoText, tagS_eq]
    · simp [rawItemS, ANode.kind, ANode.intoText, tagS_eq]
    · simp [rawItemS, ANode.kind, ANode.intoText, tagS_eq]
    · simp [rawItemS, ANode.kind, keepOf_blank t hb]

theorem raw_spec (cs : List ANode) (h : cs.all rawChildOK = true) :
    specToksL cs = Pretty.keepOf (ANode.intoTextL cs) ∧ specCmtsL cs = "" ∧ specVerbL cs = "" ∧
    rawS cs = ⟨specToksL cs, "", "", rawPieces cs, ""⟩ := by
  induction cs with
  | nil => simp [specToksL, specCmtsL, specVerbL, ANode.intoTextL, Pretty.keepOf, rawS, rawPieces]
  | cons c cs ih =>
    simp only [List.all_cons, Bool.and_eq_true] at h
    obtain ⟨i1, i2, i3, i4⟩ := ih h.2
    obtain ⟨c1, c2, c3, c4⟩ := rawChild_spec c h.1
    refine ⟨?_, ?_, ?_, ?_⟩
    · rw [specToksL, ANode.intoTextL, keepOf_append, c1, i1]
    · rw [specCmtsL, c2, i2]; rfl
    · rw [specVerbL, c3, i3]; rfl
    · rw [rawS, c4, i4]; simp [Streams.app, specToksL, rawPieces]

theorem rawStep_carries (e : Env) (acc : Doc) (sa : Streams) (c : ANode) (ha : Carries acc sa) (hc : rawChildOK c = true) :
    Carries (rawStep e acc c) (sa.app (rawItemS c)) := by
  cases c with
  | inner _ _ _ => cases hc
  | leaf k t a =>
    simp only [rawChildOK, Bool.or_eq_true, beq_iff_eq, Bool.and_eq_true] at hc
    unfold rawStep rawItemS
    rcases hc with ((rfl | rfl) | rfl) | ⟨rfl, -⟩
    · exact ha.app (Carries.mkText e.wd .lit t)
    · exact ha.app (Carries.mkText e.wd .lit t)
    · exact ha.app (Carries.mkText e.wd .lit t)
    · exact ha.app (Carries.ite Carries.hardline Carries.space)

theorem convRaw_carries (e : Env) (cs : List ANode) (a : Attrs) (hd : a.disabled = false) (h : cs.all rawChildOK = true) :
    Carries (convRaw e (.inner .raw cs a)) (specAll (.inner .raw cs a)) := by
  have hv : isVerbatimNode .raw cs a = false := isVerbatimNode_enabled cs hd (by decide)
  obtain ⟨h1, h2, h3, h4⟩ := raw_spec cs h
  have hspec : specAll (.inner .raw cs a) =
      ⟨specToksL cs, "", "", if rawIsVerbatim (.inner .raw cs a) then ANode.intoTextL cs else rawPieces cs, ""⟩ := by
    simp [specAll, specToks, specCmts, specProse, specLit, specVerb, hv, h2, h3]
  rw [hspec]
  unfold convRaw
  split
  · refine (Carries.mkText e.wd .lit _).congr ?_
    simp [tagS_eq, h1, ANode.intoText]
  · simpa [h4, ANode.children] using foldl_sem_ok (semL := rawS) rfl (fun _ _ => rfl) (okL := (·.all rawChildOK)) (fun _ _ => rfl)
      (I := Carries) (rawStep_carries e) cs h Doc.nil {} Carries.nil

theorem refMarker_target (t : String) (h : refMarkerOK t = true) :
    t = "@" ++ String.ofList (t.toList.dropWhile (· == '@')) := by
  unfold refMarkerOK at h
  split at h
  next rest ht =>
    have hrest : rest.dropWhile (· == '@') = rest := by
      cases rest with
      | nil => rfl
      | cons r rs =>
        have : r ≠ '@' := by simpa using h
        simp [this]
    apply String.ext
    simp only [ht, List.dropWhile_cons, beq_self_eq_true, ↓reduceIte, hrest, String.toList_append, String.toList_ofList]
    rfl
  next => cases h

theorem refMarker_carries (e : Env) (t : String) (a : Attrs) (h : refMarkerOK t = true) :
    Carries (e.syn "@" ++ e.plit (String.ofList (t.toList.dropWhile (· == '@')))) (specAll (.leaf .refMarker t a)) := by
  refine ((Carries.mkText e.wd .syn "@").app (Carries.mkText e.wd .plit _)).congr ?_
  have hk : Pretty.keepOf "@" ++ Pretty.keepOf (String.ofList (t.toList.dropWhile (· == '@'))) = Pretty.keepOf t :=
    (keepOf_append _ _).symm.trans (congrArg Pretty.keepOf (refMarker_target t h).symm)
  have hx : Kind.refMarker.isExpr = false := rfl
  simp [tagS_eq, Streams.app, specAll, specToks, specCmts, specProse, specLit, specVerb, isCommentKind, hx, hk]

end Typstyle
