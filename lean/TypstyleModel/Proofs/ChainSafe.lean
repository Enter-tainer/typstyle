import TypstyleModel.Model.Stylist.Chain
import TypstyleModel.Proofs.Monad
/-! C05: the only partial operation of the chain stylist, `docs.remove(0)` (chain.rs:214), cannot
fail on a chain that has any item at all: the first item of a processed chain is never an *attached*
comment (a comment is only attached after a body), and every other kind of item opens a document. -/
namespace Typstyle
open Twin

def headOK : List CItem → Bool
  | .attached _ :: _ => false
  | _ => true

theorem headOK_cons (x : CItem) (xs : List CItem) : headOK (x :: xs) = headOK [x] := by cases x <;> rfl

/-- Invariant of the loop of `ChainStylist::process`. -/
def CInv (items : List CItem) (canAttach : Bool) : Prop := headOK items = true ∧ (canAttach = true → items ≠ [])

theorem headOK_append {items : List CItem} {x : CItem} (h : headOK items = true)
    (hx : items = [] → ∀ d, x ≠ .attached d) : headOK (items ++ [x]) = true := by
  cases items with
  | nil =>
    cases x with
    | attached d => exact absurd rfl (hx rfl d)
    | _ => rfl
  | cons a as => rw [List.cons_append, headOK_cons]; rwa [headOK_cons] at h

theorem headOK_dropLast_body {items : List CItem} {b : Doc} (h : headOK items = true) :
    headOK (items.dropLast ++ [.body b]) = true := by
  cases items with
  | nil => rfl
  | cons x xs =>
    cases xs with
    | nil => rfl
    | cons y ys => rw [List.dropLast_cons_cons, List.cons_append, headOK_cons]; rwa [headOK_cons] at h

theorem CInv.push {items : List CItem} {ca : Bool} (h : CInv items ca) (it : CItem)
    (hx : ∀ d, it = .attached d → ca = true) (ca' : Bool) : CInv (items ++ [it]) ca' :=
  ⟨headOK_append h.1 (fun hn d hd => h.2 (hx d hd) hn), fun _ => by simp⟩

section
variable {e : Env} {ctx : Ctx} {operandPred : ANode → Bool} {opConv : Bool → ANode → M (Bool × Option Doc)}
  {rhsConv : Ctx → ANode → M (Option Doc)} {fallback : Ctx → ANode → M (Option Doc)}

theorem childStepM_inv (acc : CS × Bool × Bool) (child : ANode) (h : CInv acc.1.items acc.2.1) :
    Post (CS.childStepM e ctx opConv rhsConv acc child) (fun r => CInv r.1.items r.2.1) := by
  obtain ⟨cs, ca, so⟩ := acc
  refine Post.bind_any ?_
  rintro ⟨ost, op?⟩
  cases op? with
  | some op => exact Post.pure (h.push (.op op) (fun _ => nofun) _)
  | none =>
    refine Post.ite (fun _ => Post.bind_any fun d => Post.pure (h.push _ (fun d' hd => by cases ca; exact nomatch hd; rfl) _)) fun _ =>
      Post.ite (fun _ => Post.ite (fun _ => Post.pure ?_) fun _ => Post.pure h) fun _ =>
      Post.ite (fun _ => Post.bind_any fun r => ?_) fun _ => Post.pure h
    · split
      · exact h.push .linebreak (fun _ => nofun) _
      · exact ⟨h.1, nofun⟩
    · cases r with
      | some rhs => exact Post.pure (h.push (.body rhs) (fun _ => nofun) _)
      | none => exact Post.pure h

theorem nodeStepM_inv (acc : CS × Bool) (node : ANode) (h : CInv acc.1.items acc.2) :
    Post (CS.nodeStepM e ctx operandPred opConv rhsConv fallback acc node) (fun r => CInv r.1.items r.2) := by
  obtain ⟨cs, ca⟩ := acc
  refine Post.ite (fun _ => Post.map (Post.foldlM (Inv := fun r : CS × Bool × Bool => CInv r.1.items r.2.1) node.children _ h childStepM_inv))
    fun _ => Post.bind_any fun r => ?_
  cases r with
  | none => exact Post.pure h
  | some fb =>
    simp only
    split
    · exact Post.pure ⟨headOK_dropLast_body h.1, fun _ => by simp⟩
    · exact Post.pure (h.push (.body fb) (fun _ => nofun) _)

theorem foldlM_nodeStepM_inv (nodes : List ANode) (acc : CS × Bool) (h : CInv acc.1.items acc.2) :
    Post (nodes.foldlM (CS.nodeStepM e ctx operandPred opConv rhsConv fallback) acc) (fun r => CInv r.1.items r.2) :=
  Post.foldlM (Inv := fun r => CInv r.1.items r.2) nodes acc h nodeStepM_inv

theorem processM_head (nodes : List ANode) (cs0 : CS) (h0 : cs0.items = []) :
    Post (CS.processM e cs0 ctx nodes operandPred opConv rhsConv fallback) (fun cs => headOK cs.items = true) :=
  Post.bind (foldlM_nodeStepM_inv nodes (cs0, false) ⟨by rw [h0]; rfl, nofun⟩) (fun _ hr => Post.pure hr.1)

end

theorem appendLast_ne_nil {docs : List Doc} {d : Doc} (h : docs ≠ []) : appendLast docs d ≠ [] := by
  unfold appendLast
  cases hl : docs.getLast? with
  | none => exact h
  | some l => simp

section
variable {opSep : Doc} {simple sp : Bool}

/-- Every item opens a document or extends the open one; an attached comment (and, when not `leading`,
a body or comment) needs an open one to extend. -/
theorem printStep_ne_nil (acc : List Doc × Bool × Bool × Bool) (item : CItem)
    (h : acc.1 = [] → acc.2.2.1 = true ∧ headOK [item] = true) : (CS.printStep opSep simple sp acc item).1 ≠ [] := by
  obtain ⟨docs, hb, ld, sa⟩ := acc
  have hld : ld = false → docs ≠ [] := fun hl hd => Bool.false_ne_true (hl.symm.trans (h hd).1)
  cases item <;> simp only [CS.printStep]
  · cases ld
    · exact appendLast_ne_nil (hld rfl)
    · simp
  · split <;> split <;> simp
  · cases ld
    · exact appendLast_ne_nil (hld rfl)
    · simp
  · exact appendLast_ne_nil (fun hd => by have := (h hd).2; simp [headOK] at this)
  · simp

theorem foldl_printStep_ne_nil (items : List CItem) (acc : List Doc × Bool × Bool × Bool)
    (h : acc.1 = [] → items ≠ [] ∧ acc.2.2.1 = true ∧ headOK items = true) :
    (items.foldl (CS.printStep opSep simple sp) acc).1 ≠ [] := by
  induction items generalizing acc with
  | nil => exact fun hd => (h hd).1 rfl
  | cons x xs ih =>
    exact ih _ fun hd => absurd hd (printStep_ne_nil acc x fun hd => ⟨(h hd).2.1, by rw [← headOK_cons]; exact (h hd).2.2⟩)

end

theorem chain_print_no_panic (e : Env) (cs : CS) (nbs sp : Bool) (hne : cs.items ≠ []) (hh : headOK cs.items = true) :
    ∀ s site, (cs.print e nbs sp).run s ≠ .error (.panic site) := by
  intro s site
  unfold CS.print
  simp only
  split
  · rename_i hnil
    exact absurd hnil (foldl_printStep_ne_nil cs.items _ fun _ => ⟨hne, rfl, hh⟩)
  · split <;> (intro h; cases h)

end Typstyle
