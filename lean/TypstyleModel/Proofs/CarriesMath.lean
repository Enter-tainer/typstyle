import TypstyleModel.Proofs.CarriesList
/-! Equations and math (`math.rs`): the math-mode entry points carry exactly what the tree prescribes.
`Q` is the fragment for contexts that are not in math mode, `QM` the fragment for math mode; the child
after a `#` is converted in code mode, hence must satisfy `Q`. -/
namespace Typstyle
open Twin

/-- The math-mode induction hypothesis of the knot. -/
structure RecOKM (r : Rec) (QM : ANode → Prop) : Prop where
  expr : ∀ ctx c, ctx.mode = .math → isExpr c = true → QM c → Post (r.expr ctx c) (fun d => Carries d (specAll c))
  math : ∀ ctx c, ctx.mode = .math → c.kind = .math → QM c → Post (r.math ctx c) (fun d => Carries d (specAll c))

variable {Q QM : ANode → Prop} (e : Env) (r : Rec)

theorem tokLike_carries (c : ANode) (h : ANode.tokensAreLeaves c = true)
    (hp : c.kind.isPlainToken = true ∨ c.kind = .underscore) : Carries (e.tok c.text) (specAll c) := by
  rcases hp with hp | hp
  · exact tok_carries e c h hp
  · have hf : c.kind.fixedTok = some "_" := by rw [hp]; rfl
    exact (Carries.mkText e.wd .tok c.text).congr (by rw [specAll_fixedTok c h hf, token_text_fixedTok h hf])

theorem expr_carries (hr : RecOK r Q) (hrM : RecOKM r QM) (c : Ctx) (x : ANode) (hx : isExpr x = true)
    (h : (c.mode = .math → QM x) ∧ (NM c → Q x)) : Post (r.expr c x) (fun d => Carries d (specAll x)) := by
  by_cases hm : c.mode = .math
  · exact hrM.expr c x hm hx (h.1 hm)
  · exact hr.expr c x hm hx (h.2 hm)

theorem modeOK_withModeIf (ctx : Ctx) (hm : ctx.mode = .math) (p : Bool) (x : ANode) (h : if p = true then Q x else QM x) :
    ((ctx.withModeIf .code p).mode = .math → QM x) ∧ (NM (ctx.withModeIf .code p) → Q x) := by
  cases p
  · exact ⟨fun _ => h, fun hn => absurd hm hn⟩
  · exact ⟨fun hmm => absurd hmm (by simp [Ctx.withModeIf]), fun _ => h⟩

/-- The children of a `Math` node, converted in math mode (`hh`: the previous sibling is `#`). -/
def MathSeqOK (Q QM : ANode → Prop) : Bool → List ANode → Prop
  | _, [] => True
  | hh, c :: cs =>
    ANode.tokensAreLeaves c = true ∧
    (if isExpr c = true then (if hh = true then Q c else QM c)
     else c.kind = .space ∨ c.kind = .hash ∨ isCommentKind c.kind = true ∨ c.kind.isPlainToken = true ∨ c.kind = .underscore) ∧
    MathSeqOK Q QM (c.kind == .hash) cs

theorem mathSeq_lex : ∀ (cs : List ANode) (hh : Bool), MathSeqOK Q QM hh cs → ANode.tokensAreLeavesL cs = true
  | [], _, _ => rfl
  | _ :: cs, _, h => by simp only [ANode.tokensAreLeavesL, h.1, mathSeq_lex cs _ h.2.2, Bool.and_self]

theorem mathSeq_prefix (l1 l2 : List ANode) : ∀ hh, MathSeqOK Q QM hh (l1 ++ l2) → MathSeqOK Q QM hh l1 := by
  induction l1 with
  | nil => intro _ _; trivial
  | cons c cs ih => exact fun hh h => ⟨h.1, h.2.1, ih _ h.2.2⟩

theorem mathSeq_drop_spaces (sp l : List ANode) (hs : ∀ x ∈ sp, x.kind = .space) :
    ∀ hh, MathSeqOK Q QM hh (sp ++ l) → MathSeqOK Q QM (if sp.isEmpty then hh else false) l := by
  induction sp with
  | nil => exact fun hh h => h
  | cons c cs ih =>
    intro hh h
    have := ih (fun x hx => hs x (List.mem_cons_of_mem _ hx)) _ h.2.2
    rw [hs c List.mem_cons_self] at this
    cases cs <;> exact this

/-- One step of `convert_math`, in the form `Post.foldlM_sem` takes. -/
theorem mathStep_carries (hr : RecOK r Q) (hrM : RecOKM r QM) (ctx : Ctx) (hm : ctx.mode = .math)
    (acc : Doc × Bool) (s : Streams) (c : ANode) (rest : List ANode)
    (h : Carries acc.1 s ∧ MathSeqOK Q QM acc.2 (c :: rest)) :
    Post (mathStep e r ctx acc c) (fun acc' => Carries acc'.1 (s.app (specAll c)) ∧ MathSeqOK Q QM acc'.2 rest) := by
  obtain ⟨doc, atHash⟩ := acc
  obtain ⟨ha, hlex, hc, hrest⟩ := h
  have key : ∀ (d : Doc) (b : Bool), Carries d (specAll c) → (c.kind == .hash) = b →
      Post (pure (doc ++ d, b) : M (Doc × Bool)) (fun acc' => Carries acc'.1 (s.app (specAll c)) ∧ MathSeqOK Q QM acc'.2 rest) :=
    fun d b hd hb => Post.pure ⟨ha.app hd, hb ▸ hrest⟩
  refine Post.ite (fun hx => ?_) fun hx => ?_
  · rw [if_pos hx] at hc
    exact Post.bind (expr_carries r hr hrM _ c hx (modeOK_withModeIf ctx hm atHash c hc))
      (fun d hd => key d false hd (Kind.beq_false_of_class (p := Kind.isExpr) hx rfl))
  rw [if_neg hx] at hc
  refine Post.ite (fun hk => ?_) fun hks => Post.ite (fun hk => ?_) fun hkh => Post.ite (fun hk => ?_) fun hkc => ?_
  · have hk := beq_iff_eq.mp hk
    exact key _ false (by rw [specAll_space c hlex hk]; exact Carries.ite Carries.hardline Carries.space) (by rw [hk]; rfl)
  · have hk := beq_iff_eq.mp hk
    exact key _ true (fixedTok_carries e hlex (by rw [hk]; rfl)) (by rw [hk]; rfl)
  · exact key _ false ((Carries.mkText e.wd .comment c.text).congr (by rw [specAll_comment c hlex hk, tagS_comment]))
      (comment_not_hash hk)
  · exact key _ false (tokLike_carries e c hlex
      (((hc.resolve_left (mt beq_iff_eq.mpr hks)).resolve_left (mt beq_iff_eq.mpr hkh)).resolve_left hkc))
      (Bool.eq_false_iff.mpr hkh)

theorem convMath_leaf_carries (ctx : Ctx) (a : Attrs) :
    Post (convMath e r ctx (.leaf .math "" a)) (fun d => Carries d (specAll (.leaf .math "" a))) := by
  rw [specAll_empty_leaf]
  exact Post.bind_any fun _ => Post.ite (fun _ => Post.pure ((Carries.mkText e.wd .verbatim _).congr (tagS_empty _)))
    fun _ => Post.pure Carries.nil

theorem convMath_carries (hr : RecOK r Q) (hrM : RecOKM r QM) (ctx : Ctx) (hm : ctx.mode = .math)
    (cs : List ANode) (a : Attrs) (hseq : MathSeqOK Q QM false cs) :
    Post (convMath e r ctx (.inner .math cs a)) (fun d => Carries d (specAll (.inner .math cs a))) := by
  refine Post.bind_any fun _ => Post.ite (fun hd => Post.pure (verb_inner_carries e hd (.inl rfl))) fun hd => ?_
  rw [specAll_enabled (k := .math) (a := a) cs (Bool.eq_false_iff.mpr hd) rfl]
  exact Post.bind (Post.foldlM_sem specAllL_nil specAllL_cons (I := fun acc s rest => Carries acc.1 s ∧ MathSeqOK Q QM acc.2 rest)
    (mathStep_carries e r hr hrM ctx.suppress hm) cs (Doc.nil, false) {} ⟨Carries.nil, hseq⟩)
    (fun acc hacc => Post.pure (by simpa using hacc.1))

/-- What the list stylist of an equation is told each child contributes: the `$` delimiters are
printed by the style, not as items. -/
def semEq (x : ANode) : Streams := if x.kind == .dollar then {} else specAll x

theorem semEq_dollar {x : ANode} (h : x.kind = .dollar) : semEq x = {} := by
  rw [semEq, if_pos (by rw [h]; rfl)]

theorem semEq_of_ne {x : ANode} (h : (x.kind == .dollar) = false) : semEq x = specAll x := by
  rw [semEq, if_neg (by rw [h]; exact Bool.false_ne_true)]

/-- An empty body is no item for `equationItem`, so it must prescribe nothing. -/
def eqChildOK (QM : ANode → Prop) (x : ANode) : Prop :=
  x.kind ≠ .hash ∧ ((x.kind = .math ∧ (x.children = [] → specAll x = {}) ∧ QM x) ∨ (x.kind ≠ .math ∧ semEq x = triviaS x))

theorem eqChildOK_dollar {x : ANode} (hk : x.kind = .dollar) : eqChildOK QM x :=
  ⟨by rw [hk]; decide, .inr ⟨by rw [hk]; decide, by rw [semEq_dollar hk, triviaS_not_comment (by rw [hk]; rfl)]⟩⟩

theorem eqRest_facts : ∀ rest : List ANode, eqRestB rest = true → ANode.tokensAreLeavesL rest = true →
    (∀ c ∈ rest, c.kind = .math → (c.children = [] → specAll c = {}) ∧ QM c) →
    (∀ x ∈ rest, eqChildOK QM x) ∧
    ∀ acc : Streams, (rest.foldl (fun acc x => acc.app (semEq x)) acc).app (tagS .tok "$") = acc.app (specAllL rest)
  | [], h, _, _ => nomatch h
  | c :: cs, hsh, hlex, hq => by
    simp only [ANode.tokensAreLeavesL, Bool.and_eq_true] at hlex
    simp only [eqRestB] at hsh
    rcases ite_true_cases hsh with ⟨he, hk⟩ | ⟨_, hk⟩
    · cases List.isEmpty_iff.mp he
      have hk := beq_iff_eq.mp hk
      refine ⟨fun x hx => List.mem_singleton.mp hx ▸ eqChildOK_dollar hk, fun acc => ?_⟩
      rw [List.foldl_cons, List.foldl_nil, semEq_dollar hk, specAllL_cons, specAll_fixedTok c hlex.1 (s := "$") (by rw [hk]; rfl)]
      simp
    · simp only [Bool.and_eq_true, Bool.or_eq_true, beq_iff_eq, or_assoc] at hk
      obtain ⟨h1, h2⟩ := eqRest_facts cs hk.2 hlex.2 (fun x hx => hq x (List.mem_cons_of_mem _ hx))
      have triv : c.kind ≠ .hash → c.kind ≠ .math → (c.kind == .dollar) = false → specAll c = triviaS c →
          eqChildOK QM c ∧ (c.kind == .dollar) = false :=
        fun hh hm hd h => ⟨⟨hh, .inr ⟨hm, (semEq_of_ne hd).trans h⟩⟩, hd⟩
      have hc : eqChildOK QM c ∧ (c.kind == .dollar) = false := by
        rcases hk.1 with hk | hk | hk
        · exact ⟨⟨by rw [hk]; decide, .inl ⟨hk, hq c List.mem_cons_self hk⟩⟩, by rw [hk]; rfl⟩
        · exact triv (by rw [hk]; decide) (by rw [hk]; decide) (by rw [hk]; rfl)
            (triviaS_ignorable c hlex.1 (isIgnorable_of_kind hk rfl))
        · exact triv (Kind.ne_of_class hk rfl) (Kind.ne_of_class hk rfl) (Kind.beq_false_of_class hk rfl) (triviaS_comment c hlex.1 hk)
      refine ⟨List.forall_mem_cons.mpr ⟨hc.1, h1⟩, fun acc => ?_⟩
      rw [List.foldl_cons, h2, semEq_of_ne hc.2, specAllL_cons, Streams.app_assoc]

theorem equationItem_ok (hrM : RecOKM r QM) (cs : List ANode) (isBlock : Bool) :
    CheckerS (equationItem e r cs isBlock) semEq (eqChildOK QM) (fun c => c.mode = .math) := by
  intro c x hm ⟨_, hcase⟩
  unfold equationItem
  rcases hcase with ⟨hk, hnil, hq⟩ | ⟨hk, hs⟩
  · have hs : semEq x = specAll x := semEq_of_ne (by rw [hk]; rfl)
    simp only [hk, bne_self_eq_false, Bool.false_eq_true, ↓reduceIte]
    refine Post.ite (fun hlen => Post.pure ?_) fun _ => Post.bind (hrM.math c x hm hk hq) (fun body hb => Post.pure ?_)
    · rw [hs, hnil (List.length_eq_zero_iff.mp (by simpa using hlen)), triviaS_not_comment (by rw [hk]; rfl)]
    · rw [hs]
      exact Carries.ite (by simpa using hb.app (Carries.soft e " " (by decide))) hb
  · rw [if_pos (by simpa using hk)]
    exact Post.pure hs

theorem convEquation_carries (hrM : RecOKM r QM) (ctx : Ctx) (cs : List ANode) (a : Attrs) (hda : a.disabled = false)
    (hsh : eqShapeB cs = true) (hlex : ANode.tokensAreLeavesL cs = true)
    (hq : ∀ c ∈ cs, c.kind = .math → (c.children = [] → specAll c = {}) ∧ QM c) :
    Post (convEquation e r ctx (.inner .equation cs a)) (fun d => Carries d (specAll (.inner .equation cs a))) := by
  cases cs with
  | nil => cases hsh
  | cons d0 rest =>
    simp only [eqShapeB, Bool.and_eq_true, beq_iff_eq] at hsh
    simp only [ANode.tokensAreLeavesL, Bool.and_eq_true] at hlex
    obtain ⟨hall, hspec⟩ := eqRest_facts rest hsh.2 hlex.2 (fun c hc => hq c (List.mem_cons_of_mem _ hc))
    have hok : ∀ x ∈ d0 :: rest, eqChildOK QM x := List.forall_mem_cons.mpr ⟨eqChildOK_dollar hsh.1, hall⟩
    rw [specAll_enabled (k := .equation) (d0 :: rest) hda rfl]
    unfold convEquation
    refine Post.mono (list_construct_carries_delims e (ctx.withMode .math) _ (eqChildOK QM)
      (equationItem_ok e r hrM _ _) rfl (({} : LS).withFold _) ⟨rfl, rfl, rfl⟩
      { sep := Doc.nil, d0 := e.syn "$", d1 := e.syn "$", addDelimSpace := _, tightDelim := _ }
      Carries.nil (fixedTok_carries e hlex.1 (s := "$") (by rw [hsh.1]; rfl)) ((Carries.mkText e.wd .syn "$").congr (tagS_syn_eq_tok "$"))
      rfl rfl rfl (d0 :: rest) hok (fun x hx => (hok x hx).1)) (fun d hd => hd.congr ?_)
    rw [List.foldl_cons, semEq_dollar hsh.1, Streams.app_assoc, hspec, specAllL_cons]
    simp

/-- What a math-mode flow may assume of a child it hands to its producer, in context `c`. -/
def okM (Q QM : ANode → Prop) (c : Ctx) (child : ANode) : Prop :=
  ANode.tokensAreLeaves child = true ∧
  (if isExpr child = true then ((c.mode = .math → QM child) ∧ (NM c → Q child))
   else child.kind = .space ∨ child.kind.isPlainToken = true ∨ child.kind = .underscore)

theorem mathSeq_okSeq (ctx : Ctx) (hm : ctx.mode = .math) (cs : List ANode) :
    ∀ hh, MathSeqOK Q QM hh cs → okSeq (okM Q QM) ctx hh cs := by
  induction cs with
  | nil => intro _ _; trivial
  | cons c cs ih =>
    intro hh ⟨hlex, h2, hrest⟩
    refine ⟨?_, ih _ hrest⟩
    by_cases hx : isExpr c = true
    · rw [if_pos hx] at h2
      exact .inr ⟨hlex, by rw [if_pos hx]; exact modeOK_withModeIf ctx hm hh c h2⟩
    · rw [if_neg hx] at h2
      rcases h2 with h2 | h2 | h2 | h2
      · exact .inr ⟨hlex, by rw [if_neg hx]; exact .inl h2⟩
      · exact .inl (.inr (.inr h2))
      · exact .inl (.inr (.inl h2))
      · exact .inr ⟨hlex, by rw [if_neg hx]; exact .inr h2⟩

theorem okM_expr (hr : RecOK r Q) (hrM : RecOKM r QM) (c : Ctx) (child : ANode) (hok : okM Q QM c child)
    (hx : isExpr child = true) : Post (r.expr c child) (fun d => Carries d (specAll child)) :=
  expr_carries r hr hrM c child hx (by simpa only [hx, if_true] using hok.2)

theorem okM_tok (c : Ctx) (child : ANode) (hok : okM Q QM c child) (hx : ¬ isExpr child = true)
    (hs : ¬ (child.kind == .space) = true) : Carries (e.tok child.text) (specAll child) := by
  have h := hok.2
  rw [if_neg hx] at h
  exact tokLike_carries e child hok.1 (h.resolve_left (mt beq_iff_eq.mpr hs))

theorem attachProducer_ok (hr : RecOK r Q) (hrM : RecOKM r QM) :
    ProducerH (attachProducer e r) specAll (okM Q QM) := fun _ c child hok =>
  Post.ite (fun hx => Post.map (okM_expr r hr hrM c child hok hx)) fun hx =>
  Post.ite (fun hk => Post.pure (specAll_space child hok.1 (beq_iff_eq.mp hk))) fun hk =>
  Post.ite (fun _ => Post.pure (okM_tok e c child hok hx hk)) fun _ => Post.pure (okM_tok e c child hok hx hk)

theorem rootProducer_ok (hr : RecOK r Q) (hrM : RecOKM r QM) :
    ProducerH (rootProducer e r) specAll (okM Q QM) := fun _ c child hok =>
  Post.ite (fun hx => Post.map (okM_expr r hr hrM c child hok hx)) fun hx =>
  Post.ite (fun hk => Post.pure (specAll_space child hok.1 (beq_iff_eq.mp hk))) fun hk => Post.pure (okM_tok e c child hok hx hk)

theorem fracProducer_ok (hr : RecOK r Q) (hrM : RecOKM r QM) :
    ProducerH (fracProducer e r) specAll (okM Q QM) := fun _ c child hok =>
  Post.ite (fun hx => Post.map (okM_expr r hr hrM c child hok hx)) fun hx =>
  Post.ite (fun hk => Post.pure (okM_tok e c child hok hx (by rw [beq_iff_eq.mp hk]; decide))) fun _ =>
  Post.ite (fun hk => Post.pure (okM_tok e c child hok hx (by simpa using hk))) fun hk =>
    Post.pure (specAll_space child hok.1 (by simpa using hk))

theorem mathFlow_carries {σ : Type} (ctx : Ctx) (hm : ctx.mode = .math) {k : Kind} {cs : List ANode} {a : Attrs}
    (hd : a.disabled = false) (hk : (k == .codeBlock || k == .raw) = false)
    (st : σ) {producer : σ → Ctx → ANode → M (σ × Option FlowItem)} (hp : ProducerH producer specAll (okM Q QM))
    (hseq : MathSeqOK Q QM false cs) :
    Post (flowM e ctx cs st producer) (fun d => Carries d (specAll (.inner k cs a))) := by
  rw [specAll_enabled cs hd hk]
  exact flowM_specAllH hp cs (mathSeq_lex cs false hseq) (mathSeq_okSeq ctx hm cs false hseq) st

theorem convMathPrimes_carries (cs : List ANode) (a : Attrs) (hda : a.disabled = false)
    (hlex : ANode.tokensAreLeavesL cs = true) :
    Post (convMathPrimes e (.inner .mathPrimes cs a)) (fun d => Carries d (specAll (.inner .mathPrimes cs a))) := by
  rw [specAll_enabled (k := .mathPrimes) cs hda rfl]
  refine Post.ite (fun hall => Post.pure ((Carries.mkText e.wd .syn _).congr ?_)) fun _ => Post.rejected
  simp only [ANode.children] at hall ⊢
  induction cs with
  | nil => exact tagS_empty _
  | cons c cs ih =>
    simp only [List.all_cons, Bool.and_eq_true, beq_iff_eq] at hall
    simp only [ANode.tokensAreLeavesL, Bool.and_eq_true] at hlex
    rw [specAllL_cons, ← ih hlex.2 hall.2, specAll_plain c hlex.1 (by rw [hall.1.1]; rfl), hall.1.2, ← tagS_syn_eq_tok,
      ← tagS_syn_append]
    congr 1
    rw [List.length_cons, List.replicate_succ]
    show String.ofList (['\''] ++ List.replicate cs.length '\'') = _
    rw [String.ofList_append]

/-- A child between the delimiters of a `MathDelimited`. -/
def midOK (QM : ANode → Prop) (c : ANode) : Prop :=
  ANode.tokensAreLeaves c = true ∧ ((c.kind = .math ∧ QM c) ∨ c.kind = .space ∨ isCommentKind c.kind = true)

/-- What `delimitedProducer` may be given: a math body (in math mode, of the fragment) or white space. -/
def okD (QM : ANode → Prop) (c : Ctx) (child : ANode) : Prop :=
  ANode.tokensAreLeaves child = true ∧ ((child.kind = .math ∧ c.mode = .math ∧ QM child) ∨ child.kind = .space)

theorem delimitedProducer_ok (hrM : RecOKM r QM) : ProducerH (delimitedProducer r) specAll (okD QM) := by
  intro st c child ⟨hlex, hok⟩
  unfold delimitedProducer
  rcases hok with ⟨hk, hm, hq⟩ | hk
  · rw [if_pos (by rw [hk]; rfl)]
    exact Post.map (hrM.math c child hm hk hq)
  · rw [if_neg (by rw [hk]; decide), if_pos (by rw [hk]; rfl)]
    exact Post.pure ((specAll_space child hlex hk).symm ▸ Carries.ite Carries.line Carries.space)

theorem mid_okSeq (ctx : Ctx) (hm : ctx.mode = .math) (l : List ANode) (h : ∀ c ∈ l, midOK QM c) :
    okSeq (okD QM) ctx false l := by
  induction l with
  | nil => trivial
  | cons c cs ih =>
    obtain ⟨⟨hlex, hc⟩, hcs⟩ := List.forall_mem_cons.mp h
    rcases hc with h1 | h1 | h1
    · exact ⟨.inr ⟨hlex, .inl ⟨h1.1, hm, h1.2⟩⟩, by rw [h1.1]; exact ih hcs⟩
    · exact ⟨.inr ⟨hlex, .inr h1⟩, by rw [h1]; exact ih hcs⟩
    · exact ⟨.inl (.inr (.inl h1)), by rw [comment_not_hash h1]; exact ih hcs⟩

theorem convMathDelimited_carries (hrM : RecOKM r QM) (ctx : Ctx) (hm : ctx.mode = .math)
    (c0 c1 : ANode) (mid : List ANode) (a : Attrs) (hda : a.disabled = false)
    (hx0 : isExpr c0 = true) (hx1 : isExpr c1 = true) (hq0 : QM c0) (hq1 : QM c1)
    (hmid : ∀ c ∈ mid, midOK QM c) :
    Post (convMathDelimited e r ctx (.inner .mathDelimited (c0 :: (mid ++ [c1])) a))
      (fun d => Carries d (specAll (.inner .mathDelimited (c0 :: (mid ++ [c1])) a))) := by
  rw [specAll_enabled (k := .mathDelimited) _ hda rfl, specAllL_cons, specAllL_snoc]
  -- for any way of stripping white space in front (`pa`) and then behind (`pb`)
  have key : ∀ (pa pb : Doc × List ANode),
      (Carries pa.1 {} ∧ ∃ sA, mid = sA ++ pa.2 ∧ ∀ x ∈ sA, x.kind = .space) →
      (Carries pb.1 {} ∧ ∃ sB, pa.2 = pb.2 ++ sB ∧ ∀ x ∈ sB, x.kind = .space) →
      Post (do
        let body ← flowM e ctx pb.2 () (delimitedProducer r)
        let op ← r.expr ctx c0
        let cl ← r.expr ctx c1
        pure ((((pa.1 ++ body).nstTab) ++ pb.1).enclose op cl))
        (fun d => Carries d ((specAll c0).app ((specAllL mid).app (specAll c1)))) := by
    intro pa pb ⟨ha, sA, hA, hsA⟩ ⟨hb, sB, hB, hsB⟩
    rw [hB] at hA
    rw [hA] at hmid ⊢
    obtain ⟨hlex, hspec⟩ := specAllL_trim ((tokensAreLeavesL_iff _).mpr (fun c hc => (hmid c hc).1))
      (fun x hx => isIgnorable_of_kind (hsA x hx) rfl) (fun x hx => isIgnorable_of_kind (hsB x hx) rfl)
    rw [hspec]
    refine Post.bind (flowM_specAllH (delimitedProducer_ok r hrM) pb.2 hlex
      (mid_okSeq ctx hm pb.2 (fun c hc => hmid c (by simp [hc]))) ()) (fun body hbody => ?_)
    refine Post.bind (hrM.expr ctx c0 hm hx0 hq0) (fun op hop => ?_)
    refine Post.bind (hrM.expr ctx c1 hm hx1 hq1) (fun cl hcl => Post.pure ?_)
    simpa [Streams.app_assoc] using (((ha.app hbody).nstTab).app hb).enclose hop hcl
  unfold convMathDelimited
  have hl : lastWhere (.inner .mathDelimited (c0 :: (mid ++ [c1])) a) isExpr = some c1 := lastWhere_concat (cs := c0 :: mid) hx1
  simp only [ANode.children, show ¬ ((c0 :: (mid ++ [c1])).length < 2) by simp, ↓reduceIte,
    show ((c0 :: (mid ++ [c1])).drop 1).dropLast = mid by simp, firstWhere_cons hx0, hl, childOr, M.pure_bind]
  refine key _ _ ?_ ?_
  · cases mid with
    | nil => exact ⟨Carries.nil, [], rfl, nofun⟩
    | cons f rest =>
      simp only
      split
      · next hk => exact ⟨Carries.ite Carries.hardline Carries.space, [f], rfl, by simpa using hk⟩
      · exact ⟨Carries.nil, [], rfl, nofun⟩
  · split
    · next l hl =>
      split
      · next hk => exact ⟨Carries.ite Carries.hardline Carries.space, [l], dropLast_getLast _ l hl, by simpa using hk⟩
      · exact ⟨Carries.nil, [], (List.append_nil _).symm, nofun⟩
    · exact ⟨Carries.nil, [], (List.append_nil _).symm, nofun⟩

theorem mathArgProducer_of_convArg : ProducerH (mathArgProducer e r) specAll (fun c x =>
    ANode.tokensAreLeaves x = true ∧ (isArg x = true → Post (convArg e r c x) (fun d => Carries d (specAll x)))) := by
  intro st c child ⟨hlex, harg⟩
  unfold mathArgProducer
  split
  · next hk => exact Post.map (synLeaf_carries e child "," hlex (by rw [hk]; rfl))
  · next hk => exact Post.map (synLeaf_carries e child ";" hlex (by rw [hk]; rfl))
  · next hk =>
    split
    · exact Post.pure ((specAll_space child hlex hk).symm ▸ Carries.hardline)
    · exact Post.pure (specAll_space child hlex hk)
  · exact Post.ite (fun ha => Post.map (harg ha)) fun _ => Post.rejected

/-- An argument acceptable in a math flow is an expression (named and spread arguments are no tokens). -/
theorem convArg_okM (hr : RecOK r Q) (hrM : RecOKM r QM) {c : Ctx} {x : ANode} (hok : okM Q QM c x)
    (ha : isArg x = true) : Post (convArg e r c x) (fun d => Carries d (specAll x)) := by
  by_cases hx : isExpr x = true
  · unfold convArg
    split
    · next hk => exact absurd hk (Kind.ne_of_class (p := Kind.isExpr) hx rfl)
    · next hk => exact absurd hk (Kind.ne_of_class (p := Kind.isExpr) hx rfl)
    · exact okM_expr r hr hrM c x hok hx
  · have h := hok.2
    rw [if_neg hx] at h
    simp only [isArg, Bool.eq_false_iff.mpr hx, Bool.or_false, Bool.or_eq_true, beq_iff_eq] at ha
    rcases ha with hn | hn <;> rw [hn] at h <;> exact absurd h (by decide)

theorem mathArgProducer_ok (hr : RecOK r Q) (hrM : RecOKM r QM) :
    ProducerH (mathArgProducer e r) specAll (okM Q QM) :=
  fun st c x hok => mathArgProducer_of_convArg e r st c x ⟨hok.1, convArg_okM e r hr hrM hok⟩

theorem convFuncCallM_carries (hrM : RecOKM r QM) (ctx : Ctx) (hm : ctx.mode = .math)
    (callee args : ANode) (a : Attrs) (hda : a.disabled = false)
    (hxc : isExpr callee = true) (hnf : callee.kind ≠ .fieldAccess) (hqc : QM callee) (hak : args.kind = .args)
    (hargs : Post (convArgsInMath e r ctx args) (fun d => Carries d (specAll args))) :
    Post (convFuncCall e r ctx (.inner .funcCall [callee, args] a))
      (fun d => Carries d (specAll (.inner .funcCall [callee, args] a))) := by
  rw [specAll_enabled (k := .funcCall) _ hda rfl]
  unfold convFuncCall
  simp only [firstWhere_cons hxc, childOr, M.pure_bind, beq_false_of_ne hnf, Bool.false_eq_true, ↓reduceIte,
    lastWhere_call_args hak,
    show convFuncCallArgs e r ctx (.inner .funcCall [callee, args] a) args = convArgsInMath e r ctx args by
      simp [convFuncCallArgs, hm]]
  exact Post.bind (hrM.expr ctx callee hm hxc hqc) (fun dc hdc =>
    Post.bind hargs (fun da hda' => Post.pure (by simpa [specAllL_cons] using hdc.app hda')))

def rowChildOK (QM : ANode → Prop) (x : ANode) : Prop :=
  ANode.tokensAreLeaves x = true ∧ ((isExpr x = true ∧ QM x) ∨ isCommentKind x.kind = true ∨ isIgnorable x = true)

theorem convArrayItem_expr (c : Ctx) {x : ANode} (hx : isExpr x = true) :
    convArrayItem e r c x = (do let d ← r.expr c x; pure (some d)) := by
  unfold convArrayItem
  simp only [Kind.beq_false_of_class (p := Kind.isExpr) (k0 := .spread) hx rfl, hx, Bool.false_eq_true, ↓reduceIte]

theorem convArrayItem_none (c : Ctx) {x : ANode} (hs : (x.kind == .spread) = false)
    (hx : isExpr x = false) : convArrayItem e r c x = pure none := by
  unfold convArrayItem
  simp only [hs, hx, Bool.false_eq_true, ↓reduceIte]

/-- `okx`: any account of why an expression child may be converted in the context it is met in. -/
def okRow (okx : Ctx → ANode → Prop) (c : Ctx) (x : ANode) : Prop :=
  ANode.tokensAreLeaves x = true ∧ ((isExpr x = true ∧ okx c x) ∨ isCommentKind x.kind = true ∨ isIgnorable x = true)

section
variable {okx : Ctx → ANode → Prop}
  (hx : ∀ c x, isExpr x = true → okx c x → Post (r.expr c x) (fun d => Carries d (specAll x)))
include hx

theorem convArrayItem_ok : CheckerH (convArrayItem e r) specAll (okRow okx) := by
  intro c x hok
  rcases hok.2 with h | h | h
  · rw [convArrayItem_expr e r c h.1]
    exact Post.map (hx c x h.1 h.2)
  · rw [convArrayItem_none e r c (Kind.beq_false_of_class h rfl) (comment_not_class (p := Kind.isExpr) h rfl rfl)]
    exact Post.pure (triviaS_comment x hok.1 h)
  · rw [convArrayItem_none e r c (ignorable_not_class (p := (· == .spread)) h (by decide))
      (ignorable_not_class (p := Kind.isExpr) h (by decide))]
    exact Post.pure (triviaS_ignorable x hok.1 h)

/-- `convert_array` on a row of two-dimensional math arguments, `mat(#a, b; c, d)`: no parentheses, `#` allowed. -/
theorem convArrayRow_carries (ctx : Ctx) (cs : List ANode) (a : Attrs) (hda : a.disabled = false)
    (himp : (cs.head?.map (·.kind == .leftParen)).getD false = false)
    (hseq : HSeq (okRow okx) (fun x => isExpr x = true) ctx false cs) :
    Post (convArray e r ctx (.inner .array cs a)) (fun d => Carries d (specAll (.inner .array cs a))) := by
  rw [specAll_enabled (k := .array) cs hda rfl]
  unfold convArray
  simp only [ANode.children, himp, Bool.false_eq_true, ↓reduceIte, Bool.not_false, Bool.true_and]
  refine list_construct_carriesH e ctx (convArrayItem e r) (convArrayItem_ok e r hx) ?_ ?_
    (fun x hl hk => (specAll_fixedTok x hl (s := "#") (by rw [hk]; rfl)).trans (tagS_syn_eq_tok "#").symm)
    _ ⟨rfl, rfl, rfl⟩ id (fun _ => rfl) _ (soft_delims e).2.2.1 Carries.nil Carries.nil cs hseq
  · intro c x hk
    exact convArrayItem_none e r c (by rw [hk]; rfl) (by unfold isExpr; rw [hk]; rfl)
  · intro c x hx
    rw [convArrayItem_expr e r c hx]
    exact Post.bind_any fun _ => Post.pure rfl

end

/-- **`convert_array` on a row of math arguments** (no parentheses): in math mode. -/
theorem convArrayM_carries (e : Env) (r : Rec) (hrM : RecOKM r QM) (ctx : Ctx) (hm : ctx.mode = .math)
    (cs : List ANode) (a : Attrs) (hda : a.disabled = false)
    (himp : (cs.head?.map (·.kind == .leftParen)).getD false = false)
    (hall : ∀ x ∈ cs, rowChildOK QM x) :
    Post (convArray e r ctx (.inner .array cs a)) (fun d => Carries d (specAll (.inner .array cs a))) := by
  refine convArrayRow_carries e r (okx := fun c x => c.mode = .math ∧ QM x) (fun c x hx h => hrM.expr c x h.1 hx h.2) ctx cs a hda himp
    (HSeq.of_no_hash cs (fun x hx => ⟨?_, (hall x hx).1, (hall x hx).2.imp_left (fun h => ⟨h.1, hm, h.2⟩)⟩))
  rcases (hall x hx).2 with h | h | h
  · exact Kind.ne_of_class (p := Kind.isExpr) h.1 rfl
  · exact Kind.ne_of_class h rfl
  · exact beq_eq_false_iff_ne.mp (ignorable_not_class (p := (· == .hash)) h (by decide))

theorem mathSeq_HSeq (ctx : Ctx) (hm : ctx.mode = .math) (cs : List ANode) :
    ∀ p, MathSeqOK Q QM p cs →
      (cs.all fun x => isExpr x || isCommentKind x.kind || isIgnorable x || x.kind == .hash) = true →
      hashSeqB p cs = true →
      HSeq (okRow fun c x => (c.mode = .math → QM x) ∧ (NM c → Q x)) (fun x => isExpr x = true) ctx p cs := by
  induction cs with
  | nil => intro p _ _ h; show p = false; simpa [hashSeqB] using h
  | cons x xs ih =>
    intro p ⟨hlex, hx, hseq⟩ hkinds hh
    simp only [hashSeqB, Bool.and_eq_true] at hh
    simp only [List.all_cons, Bool.and_eq_true, Bool.or_eq_true, beq_iff_eq, or_assoc] at hkinds
    refine ⟨?_, ih _ hseq hkinds.2 hh.2⟩
    by_cases hk : x.kind = .hash
    · simpa [hk] using And.intro hh.1 hlex
    · rw [if_neg hk]
      refine ⟨⟨hlex, ?_⟩, fun hp => by simpa [hk, hp] using hh.1⟩
      rcases hkinds.1 with h | h | h | h
      · exact .inl ⟨h, modeOK_withModeIf ctx hm p x (by simpa [h] using hx)⟩
      · exact .inr (.inl h)
      · exact .inr (.inr h)
      · exact absurd h hk

theorem convArrayMH_carries (hr : RecOK r Q) (hrM : RecOKM r QM) (ctx : Ctx) (hm : ctx.mode = .math)
    (cs : List ANode) (a : Attrs) (hda : a.disabled = false)
    (himp : (cs.head?.map (·.kind == .leftParen)).getD false = false)
    (hseq : MathSeqOK Q QM false cs)
    (hkinds : (cs.all fun x => isExpr x || isCommentKind x.kind || isIgnorable x || x.kind == .hash) = true)
    (hh : hashSeqB false cs = true) :
    Post (convArray e r ctx (.inner .array cs a)) (fun d => Carries d (specAll (.inner .array cs a))) :=
  convArrayRow_carries e r (expr_carries r hr hrM) ctx cs a hda himp
    (mathSeq_HSeq ctx hm cs false hseq hkinds hh)

theorem findIdx?_take_false {α : Type} (p : α → Bool) (l : List α) :
    ∀ x ∈ l.take ((l.findIdx? p).getD 0), p x = false := by
  intro x hx
  cases h : l.findIdx? p with
  | none => rw [h] at hx; cases hx
  | some i =>
    rw [h] at hx
    obtain ⟨j, hj, rfl⟩ := List.mem_take_iff_getElem.mp hx
    exact Bool.eq_false_iff.mpr ((List.findIdx?_eq_some_iff_getElem.mp h).2.2 j (Nat.lt_of_lt_of_le hj (Nat.min_le_left _ _)))

/-- What `convert_args_in_math` takes for the content of `( … )`: the children from the first that is
neither `(` nor white space (`argLo`) to the last that is neither `)` nor white space (`argHi`). -/
def argLo (cs : List ANode) : Nat := (cs.findIdx? fun c => !(c.kind == .leftParen || c.kind == .space)).getD 0
def argHi (cs : List ANode) : Nat :=
  match cs.reverse.findIdx? fun c => !(c.kind == .rightParen || c.kind == .space) with
  | some k => cs.length - 1 - k
  | none => cs.length - 1
def argSlice (cs : List ANode) : List ANode :=
  if argLo cs > argHi cs + 1 || argHi cs ≥ cs.length then [] else (cs.drop (argLo cs)).take (argHi cs + 1 - argLo cs)

theorem convArgsInMath_eq (ctx : Ctx) (k : Kind) (cs : List ANode) (a : Attrs) :
    convArgsInMath e r ctx (.inner k cs a) = (do
      let endsWithLineComment : Bool := match (argSlice cs).getLast? with
        | some c => c.kind == .lineComment
        | none => false
      let inner ← flowM e ctx (argSlice cs) false (mathArgProducer e r)
      if a.multiline then
        let close := if endsWithLineComment then Twin.hardline else Twin.line_
        pure (((((Twin.line_ ++ inner).nstTab) ++ close).grp).enclose (e.syn "(") (e.syn ")"))
      else pure (inner.enclose (e.syn "(") (e.syn ")"))) := rfl

theorem argHi_spec (cs : List ANode) :
    ∀ x ∈ cs.drop (argHi cs + 1), (!(x.kind == .rightParen || x.kind == .space)) = false := by
  unfold argHi
  cases hk : cs.reverse.findIdx? (fun c => !(c.kind == .rightParen || c.kind == .space)) with
  | none =>
    intro x hx
    have : cs.drop (cs.length - 1 + 1) = [] := List.drop_eq_nil_iff.mpr (by omega)
    rw [this] at hx; cases hx
  | some k =>
    have hlt := (List.findIdx?_eq_some_iff_findIdx_eq.mp hk).1
    have h := findIdx?_take_false (fun c : ANode => !(c.kind == .rightParen || c.kind == .space)) cs.reverse
    rw [hk, Option.getD_some, List.take_reverse] at h
    rw [List.length_reverse] at hlt
    intro x hx
    refine h x (List.mem_reverse.mpr ?_)
    have e : cs.length - 1 - k + 1 = cs.length - k := by omega
    rwa [e] at hx

theorem argHi_lt (cs : List ANode) (h : cs ≠ []) : argHi cs < cs.length := by
  have := List.length_pos_iff.mpr h
  unfold argHi
  split <;> omega

theorem isIgnorable_of_delim {x : ANode} {k : Kind} (hk : k.fixedText.isSome = true)
    (h : (!(x.kind == k || x.kind == .space)) = false) : isIgnorable x = true := by
  simp only [Bool.not_eq_false', Bool.or_eq_true, beq_iff_eq] at h
  exact h.elim (isIgnorable_of_kind · (by rw [hk, Bool.or_true])) (isIgnorable_of_kind · rfl)

theorem argSlice_decomp (cs : List ANode) : ∃ pre suf, cs = pre ++ (argSlice cs ++ suf) ∧
    (∀ x ∈ pre, isIgnorable x = true) ∧ (∀ x ∈ suf, isIgnorable x = true) := by
  refine ⟨(cs.take (argLo cs)).take (argHi cs + 1), cs.drop (argHi cs + 1), ?_,
    fun x hx => isIgnorable_of_delim rfl (findIdx?_take_false _ cs x (List.mem_of_mem_take hx)),
    fun x hx => isIgnorable_of_delim rfl (argHi_spec cs x hx)⟩
  have : argSlice cs = (cs.take (argHi cs + 1)).drop (argLo cs) := by
    rw [List.drop_take]
    unfold argSlice
    split
    · next h =>
      simp only [Bool.or_eq_true, decide_eq_true_eq] at h
      rcases h with h | h
      · rw [Nat.sub_eq_zero_of_le (by omega), List.take_zero]
      · cases cs with
        | nil => rfl
        | cons c cs => exact absurd (argHi_lt _ (List.cons_ne_nil c cs)) (by omega)
    · rfl
  rw [this, List.take_take, Nat.min_comm, ← List.take_take, ← List.append_assoc, List.take_append_drop, List.take_append_drop]

/-- The content is converted as a flow; what is left out around it prescribes nothing. -/
theorem convArgsInMath_carries_all (ctx : Ctx)
    {okc : Ctx → ANode → Prop} (hprod : ProducerH (mathArgProducer e r) specAll okc)
    (cs : List ANode) (a : Attrs) (hlex : ANode.tokensAreLeavesL cs = true) (hseq : okSeq okc ctx false cs) :
    Post (convArgsInMath e r ctx (.inner .args cs a)) (fun d => Carries d (specAll (.inner .args cs a))) := by
  obtain ⟨pre, suf, hcs, hpre, hsuf⟩ := argSlice_decomp cs
  rw [specAll_never_verbatim (k := .args) _ a rfl, convArgsInMath_eq]
  generalize argSlice cs = s at *
  subst hcs
  obtain ⟨hlex, hspec⟩ := specAllL_trim hlex hpre hsuf
  have hs := okSeq_drop ctx pre _ (fun x hx => ignorable_not_class (p := (· == .hash)) (hpre x hx) (by decide)) false hseq
  rw [ite_self] at hs
  rw [hspec]
  refine Post.bind (flowM_specAllH hprod s hlex (okSeq_prefix ctx _ suf false hs) false) (fun inner hin => ?_)
  have h0 := Carries.syn e "(" (by decide)
  have h1 := Carries.syn e ")" (by decide)
  split
  · exact Post.pure (by
      simpa using ((((Carries.line_.app hin).nstTab).app (Carries.ite Carries.hardline Carries.line_)).grp).enclose h0 h1)
  · exact Post.pure (by simpa using hin.enclose h0 h1)

/-- **`convert_args_in_math`**: `(`, white space, content, white space, `)`. -/
theorem convArgsInMath_carries_gen (e : Env) (r : Rec) (ctx : Ctx)
    {okc : Ctx → ANode → Prop} (hprod : ProducerH (mathArgProducer e r) specAll okc)
    (hspc : ∀ cc (c : ANode), okc cc c → c.kind = .space → specAll c = {})
    (lp rp : ANode) (sp1 mid sp2 : List ANode) (a : Attrs)
    (hlp : lp.kind = .leftParen) (hrp : rp.kind = .rightParen)
    (hlex : ANode.tokensAreLeavesL (lp :: (sp1 ++ (mid ++ (sp2 ++ [rp])))) = true)
    (hs1 : ∀ x ∈ sp1, x.kind = .space) (hs2 : ∀ x ∈ sp2, x.kind = .space)
    (hhead : ∀ c, mid.head? = some c → (c.kind == .leftParen || c.kind == .space) = false)
    (hlast : ∀ c, mid.getLast? = some c → (c.kind == .rightParen || c.kind == .space) = false)
    (hempty : mid = [] → sp2 = [])
    (hseq : okSeq okc ctx false mid) :
    Post (convArgsInMath e r ctx (.inner .args (lp :: (sp1 ++ (mid ++ (sp2 ++ [rp])))) a))
      (fun d => Carries d (specAll (.inner .args (lp :: (sp1 ++ (mid ++ (sp2 ++ [rp])))) a))) := by
  -- `hhead`, `hlast`, `hempty` are not needed: the producer takes parentheses and white space as well (it
  -- rejects the former, but they are not in what it is run on), so the whole list is acceptable to it;
  -- nor is `hspc`: that a blank prescribes nothing follows from `hlex`
  refine convArgsInMath_carries_all e r ctx
    (okc := fun c x => okc c x ∨ ANode.tokensAreLeaves x = true ∧ isIgnorable x = true)
    (fun st c x h => h.elim (hprod st c x) (fun h => mathArgProducer_of_convArg e r st c x
      ⟨h.1, fun ha => absurd ha (Bool.eq_false_iff.mp
        (ignorable_not_class (p := fun k => k == .named || k == .spread || k.isExpr) h.2 (by decide)))⟩))
    _ a hlex ?_
  have hl := (tokensAreLeavesL_iff _).mp hlex
  refine okSeq_pad (fun _ _ => .inl) lp sp1 mid (sp2 ++ [rp]) (fun y hy => ?_) (fun y hy _ => .inr ⟨hl y (by simp [hy]), ?_⟩) hseq false
  · have hi : isIgnorable y = true := by
      rcases List.mem_cons.mp hy with rfl | hy
      · exact isIgnorable_of_kind hlp rfl
      · exact isIgnorable_of_kind (hs1 y hy) rfl
    exact ⟨beq_eq_false_iff_ne.mp (ignorable_not_class (p := (· == .hash)) hi (by decide)),
      fun _ => .inr ⟨hl y (by simpa using Or.elim (List.mem_cons.mp hy) Or.inl (fun h => Or.inr (Or.inl h))), hi⟩⟩
  · rcases List.mem_append.mp hy with hy | hy
    · exact isIgnorable_of_kind (hs2 y hy) rfl
    · exact isIgnorable_of_kind (List.mem_singleton.mp hy ▸ hrp) rfl

/-- The same for content without named or spread arguments. -/
theorem convArgsInMath_carries_sp (e : Env) (r : Rec) (hr : RecOK r Q) (hrM : RecOKM r QM) (ctx : Ctx) (hm : ctx.mode = .math)
    (lp rp : ANode) (sp1 mid sp2 : List ANode) (a : Attrs)
    (hlp : lp.kind = .leftParen) (hrp : rp.kind = .rightParen)
    (hlex : ANode.tokensAreLeavesL (lp :: (sp1 ++ (mid ++ (sp2 ++ [rp])))) = true)
    (hs1 : ∀ x ∈ sp1, x.kind = .space) (hs2 : ∀ x ∈ sp2, x.kind = .space)
    (hhead : ∀ c, mid.head? = some c → (c.kind == .leftParen || c.kind == .space) = false)
    (hlast : ∀ c, mid.getLast? = some c → (c.kind == .rightParen || c.kind == .space) = false)
    (hempty : mid = [] → sp2 = [])
    (hseq : MathSeqOK Q QM false mid) :
    Post (convArgsInMath e r ctx (.inner .args (lp :: (sp1 ++ (mid ++ (sp2 ++ [rp])))) a))
      (fun d => Carries d (specAll (.inner .args (lp :: (sp1 ++ (mid ++ (sp2 ++ [rp])))) a))) :=
  convArgsInMath_carries_gen e r ctx (mathArgProducer_ok e r hr hrM) (fun _ c hok => specAll_space c hok.1)
    lp rp sp1 mid sp2 a hlp hrp hlex hs1 hs2 hhead hlast hempty (mathSeq_okSeq ctx hm mid false hseq)

/-- **`convert_args_in_math`** on `( … )` whose content neither starts nor ends with white space. -/
theorem convArgsInMath_carries (e : Env) (r : Rec) (hr : RecOK r Q) (hrM : RecOKM r QM) (ctx : Ctx) (hm : ctx.mode = .math)
    (lp rp : ANode) (mid : List ANode) (a : Attrs)
    (hlp : lp.kind = .leftParen) (hrp : rp.kind = .rightParen) (hl0 : ANode.tokensAreLeaves lp = true) (hl1 : ANode.tokensAreLeaves rp = true)
    (hhead : ∀ c, mid.head? = some c → (c.kind == .leftParen || c.kind == .space) = false)
    (hlast : ∀ c, mid.getLast? = some c → (c.kind == .rightParen || c.kind == .space) = false)
    (hseq : MathSeqOK Q QM false mid) :
    Post (convArgsInMath e r ctx (.inner .args (lp :: (mid ++ [rp])) a))
      (fun d => Carries d (specAll (.inner .args (lp :: (mid ++ [rp])) a))) := by
  have hlex : ANode.tokensAreLeavesL (lp :: ([] ++ (mid ++ ([] ++ [rp])))) = true := by
    simp only [List.nil_append, ANode.tokensAreLeavesL, lexL_append, hl0, hl1, mathSeq_lex mid false hseq, Bool.and_self]
  exact convArgsInMath_carries_sp e r hr hrM ctx hm lp rp [] mid [] a hlp hrp hlex nofun nofun hhead hlast (fun _ => rfl) hseq

end Typstyle
