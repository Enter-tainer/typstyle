import TypstyleModel.Proofs.CarriesChain
/-! Binary expressions (`convert_binary`): the operator chain laid out by the chain stylist, and the
flow fallback, carry exactly what the node prescribes. -/
namespace Typstyle
open Twin

/-- What the covered fragment `Q` must guarantee of binary nodes. -/
structure BinQ (Q : ANode → Prop) : Prop where
  leaf : ∀ k t a, Q (.leaf k t a) → k ≠ .binary
  inner : ∀ cs a, Q (.inner .binary cs a) → a.disabled = false →
    binChildrenOK cs = true ∧ ANode.tokensAreLeavesL cs = true ∧ ∀ c ∈ cs, Q c

theorem binOp_plain (k : Kind) (h : (binOpOfKind k).isSome = true) : k.isPlainToken = true := by
  unfold binOpOfKind at h
  split at h
  case h_19 => cases h  -- the `_ => none` arm, after the 18 operator kinds
  all_goals rfl

theorem expr_not_op {k : Kind} (h : k.isExpr = true) : binOpOfKind k = none ∧ k ≠ .not_ := by
  refine ⟨?_, Kind.ne_of_class h rfl⟩
  cases hb : binOpOfKind k with
  | none => rfl
  | some o =>
    have := binOp_plain k (by rw [hb]; rfl)
    simp [Kind.isPlainToken, h] at this

theorem trivia_not_op {k : Kind} (h : (isCommentKind k || k == .space) = true) :
    binOpOfKind k = none ∧ k ≠ .not_ := by
  simp only [isCommentKind, Bool.or_eq_true, beq_iff_eq, or_assoc] at h
  rcases h with rfl | rfl | rfl <;> exact ⟨rfl, by decide⟩

variable {Q : ANode → Prop} {e : Env} {r : Rec} {ctx : Ctx}

theorem binOpConv_not {st : Bool} {c : ANode} (hk : c.kind = .not_) : binOpConv e st c = pure (true, none) := by
  simp [binOpConv, hk]

theorem binOpConv_in {c : ANode} (hk : c.kind = .in_) :
    Post (binOpConv e true c) (fun p => p = (false, some (e.syn "not in")) ∧ c.text = "in") := by
  unfold binOpConv
  simp only [hk, beq_self_eq_true, Bool.and_self, ↓reduceIte, show (Kind.in_ == Kind.not_) = false from rfl, Bool.false_eq_true]
  exact Post.ite (fun ht => Post.pure ⟨rfl, eq_of_beq ht⟩) fun _ => Post.rejected

theorem binOpConv_expr (st : Bool) {c : ANode} (hx : isExpr c = true) : binOpConv e st c = pure (st, none) := by
  have hk := expr_not_op hx
  simp [binOpConv, hk.1, hk.2, Kind.ne_of_class (p := Kind.isExpr) hx (k0 := .in_) rfl]

theorem binOpConv_post (st : Bool) {c : ANode} (hlex : ANode.tokensAreLeaves c = true) (hn : c.kind ≠ .not_)
    (hi : c.kind = .in_ → st = false) :
    Post (binOpConv e st c) (fun p => p.1 = st ∧ (∀ d, p.2 = some d → Carries d (specAll c)) ∧
      p.2.isSome = (binOpOfKind c.kind).isSome) := by
  unfold binOpConv
  have hn' : (c.kind == Kind.not_) = false := by simpa using hn
  have hi' : (c.kind == Kind.in_ && st) = false := by
    cases st
    · simp
    · simpa using fun hk => by cases hi hk
  simp only [hn', Bool.false_eq_true, ↓reduceIte, hi']
  split
  · rename_i o ho
    exact Post.bind (synLeaf_carries e c o hlex (binOp_plain _ (by rw [ho]; rfl)))
      (fun d hd => Post.pure ⟨rfl, (fun d' hd' => by cases hd'; exact hd), by rw [ho]; rfl⟩)
  · rename_i ho
    exact Post.pure ⟨rfl, (fun _ hd => by cases hd), by rw [ho]; rfl⟩

theorem exprOpt_carries (hr : RecOK r Q) (hnm : NM ctx) {c : ANode} (hx : isExpr c = true) (hq : Q c) :
    Post (exprOpt r ctx c) (fun o => match o with | some d => Carries d (specAll c) | none => specAll c = {}) := by
  unfold exprOpt
  rw [if_pos hx]
  exact Post.map (hr.expr ctx c hnm hx hq)

def pendS (pending : Bool) : Streams := if pending then tagS .tok "not" else {}

/-- The invariant while a `not` may be pending: the items carry everything but that `not`. -/
def BInv (acc : CS × Bool × Bool) (sp : Streams) : Prop :=
  ∃ sp0, ItemsCarry acc.1.items sp0 ∧ sp = sp0.app (pendS acc.1.opState)

theorem app_comm_tok_cmt (A : Streams) (s t : String) :
    (A.app (tagS .tok s)).app (commentS t) = (A.app (commentS t)).app (tagS .tok s) := by
  apply Streams.ext' <;> simp [Streams.app, tagS, Pretty.charsOf, commentS]

theorem tagS_not_in : tagS .syn "not in" = (tagS .tok "not").app (tagS .tok "in") := by
  apply Streams.ext' <;> simp [Streams.app, tagS, Pretty.charsOf] <;> decide

/-- One child of an operand node after the left operand.  `binRestOK` says which of four things it is:
a `not` (remembered), white space or a comment between `not` and `in` (kept; its stream is not the
tokens', so it may be accounted for before the pending `not`), the `in` that ends the pair (the
operator `not in` is recorded), or an ordinary child. -/
theorem binRestStep (hr : RecOK r Q) (hnm : NM ctx) {acc : CS × Bool × Bool} {sp : Streams}
    {c : ANode} {rest : List ANode} (h : BInv acc sp) (hok : binRestOK acc.2.2 acc.1.opState (c :: rest) = true)
    (hlex : ANode.tokensAreLeaves c = true) (hq : Q c) (hnot : c.kind = .not_ → c.text = "not") :
    Post (CS.childStepM e ctx (binOpConv e) (exprOpt r) acc c)
      (fun r' => BInv r' (sp.app (specAll c)) ∧ binRestOK r'.2.2 r'.1.opState rest = true) := by
  obtain ⟨⟨items, opNum, hasCmt, pending⟩, ca, so⟩ := acc
  obtain ⟨sp0, h0, rfl⟩ := h
  cases pending with
  | false =>
    simp only [binRestOK] at hok
    by_cases hkn : c.kind = .not_
    · simp only [hkn, beq_self_eq_true, ↓reduceIte] at hok
      have hx : isExpr c = false := by unfold isExpr; rw [hkn]; rfl
      refine (childStepM_carries (s := {}) (R := fun p => p = (true, none)) h0
        (by rw [binOpConv_not hkn]; exact Post.pure rfl) (fun _ _ hR => by cases hR) (fun _ _ => ?_)).mono ?_
      · cases so
        · exact .skip (by rw [hkn]; rfl) (by rw [hkn]; decide) rfl
        · refine .rhs (by rw [hkn]; rfl) (by rw [hkn]; decide) rfl ?_
          have : exprOpt r ctx c = pure none := by simp [exprOpt, hx]
          rw [this]; exact Post.pure rfl
      · rintro r' ⟨hI, p, rfl, ho, hso⟩
        refine ⟨⟨_, hI, ?_⟩, by rw [ho, hso]; simpa using hok⟩
        rw [ho, specAll_plain c hlex (by rw [hkn]; rfl), hnot hkn]
        simp [pendS]
    · simp only [show (c.kind == Kind.not_) = false by simpa using hkn, Bool.false_eq_true, ↓reduceIte, Bool.and_eq_true] at hok
      refine (childStepM_carries (s := specAll c) h0 (binOpConv_post false hlex hkn (fun _ => rfl))
        (fun _ d hR => hR.2.1 d rfl) (fun _ hR => ?_)).mono ?_
      · have hno : (binOpOfKind c.kind).isSome = false := hR.2.2.symm
        by_cases ht : (isCommentKind c.kind || c.kind == .space) = true
        · exact .trivia hlex ht
        · simp only [Bool.or_eq_true, not_or, Bool.not_eq_true, beq_eq_false_iff_ne] at ht
          have hx : isExpr c = true ∧ so = true := by simpa [hno, ht.1, ht.2] using hok.1
          exact .rhs ht.1 ht.2 hx.2 (exprOpt_carries hr hnm hx.1 hq)
      · rintro r' ⟨hI, p, hR, ho, hso⟩
        refine ⟨⟨_, hI, by rw [ho, hR.1]; simp [pendS]⟩, by rw [ho, hso, hR.1, hR.2.2]; exact hok.2⟩
  | true =>
    simp only [binRestOK] at hok
    by_cases hki : c.kind = .in_
    · simp only [hki, beq_self_eq_true, ↓reduceIte] at hok
      refine (childStepM_carries (s := (tagS .tok "not").app (tagS .tok "in")) h0 (binOpConv_in hki)
        (fun _ d hR => ?_) (fun _ hR => by cases hR.1)).mono ?_
      · cases hR.1
        rw [← tagS_not_in]; exact Carries.mkText e.wd .syn "not in"
      · rintro r' ⟨hI, p, hR, ho, hso⟩
        refine ⟨⟨_, hI, ?_⟩, by rw [ho, hso, hR.1]; simpa using hok⟩
        rw [ho, hR.1, specAll_plain c hlex (by rw [hki]; rfl), hR.2]
        simp [pendS, Streams.app_assoc]
    · simp only [show (c.kind == Kind.in_) = false by simpa using hki, Bool.false_eq_true, ↓reduceIte, Bool.and_eq_true] at hok
      have hk := trivia_not_op hok.1
      refine (childStepM_carries (s := specAll c) h0 (binOpConv_post true hlex hk.2 (fun h => absurd h hki))
        (fun _ d hR => hR.2.1 d rfl) (fun _ _ => .trivia hlex hok.1)).mono ?_
      rintro r' ⟨hI, p, hR, ho, hso⟩
      have hso' : r'.2.2 = so := by rw [hso, hR.2.2, hk.1]; simp
      refine ⟨⟨_, hI, ?_⟩, by rw [ho, hso', hR.1]; exact hok.2⟩
      rw [ho, hR.1]
      cases hc : isCommentKind c.kind with
      | true => rw [specAll_comment c hlex hc]; exact app_comm_tok_cmt _ _ _
      | false => rw [specAll_space c hlex (by simpa [hc] using hok.1)]; simp

theorem binRest_fold (hr : RecOK r Q) (hnm : NM ctx) (rest : List ANode) (hok : binRestOK false false rest = true)
    (hall : ∀ c ∈ rest, ANode.tokensAreLeaves c = true ∧ Q c ∧ (c.kind = .not_ → c.text = "not"))
    (acc : CS × Bool × Bool) (sp : Streams) (h : ItemsCarry acc.1.items sp) (hst : acc.1.opState = false) (hso : acc.2.2 = false) :
    Post (rest.foldlM (CS.childStepM e ctx (binOpConv e) (exprOpt r)) acc)
      (fun r' => ItemsCarry r'.1.items (sp.app (specAllL rest)) ∧ r'.1.opState = false) := by
  refine (Post.foldlM_sem specAllL_nil specAllL_cons (I := fun acc s rest => BInv acc s ∧ binRestOK acc.2.2 acc.1.opState rest = true ∧
    ∀ c ∈ rest, ANode.tokensAreLeaves c = true ∧ Q c ∧ (c.kind = .not_ → c.text = "not")) ?_ rest acc sp
    ⟨⟨_, h, by rw [hst]; simp [pendS]⟩, by rw [hso, hst]; exact hok, hall⟩).mono ?_
  · rintro acc s c rest ⟨hI, hok, hall⟩
    obtain ⟨hlex, hq, hnot⟩ := hall c List.mem_cons_self
    exact (binRestStep hr hnm hI hok hlex hq hnot).mono
      fun r' hr' => ⟨hr'.1, hr'.2, fun x hx => hall x (List.mem_cons_of_mem _ hx)⟩
  · rintro r' ⟨⟨sp0, hI, he⟩, hok, _⟩
    have hp : r'.1.opState = false := by simpa [binRestOK] using hok
    rw [hp] at he
    exact ⟨by rw [he]; simpa [pendS] using hI, hp⟩

theorem BinQ.shape (hQ : BinQ Q) {n : ANode} (hq : Q n) (hk : n.kind = .binary) (hd : n.attrs.disabled = false) :
    ∃ lhs rest a, n = .inner .binary (lhs :: rest) a ∧ ChainNode Q (· = .binary) lhs ∧
      binRestOK false false rest = true ∧
      (∀ c ∈ rest, ANode.tokensAreLeaves c = true ∧ Q c ∧ (c.kind = .not_ → c.text = "not")) ∧
      specAll n = (specAll lhs).app (specAllL rest) := by
  cases n with
  | leaf k t a => exact absurd hk (hQ.leaf k t a hq)
  | inner k cs a =>
    cases (hk : k = .binary)
    obtain ⟨hch, hlexL, hqc⟩ := hQ.inner cs a hq hd
    cases cs with
    | nil => simp [binChildrenOK] at hch
    | cons lhs rest =>
      simp only [binChildrenOK, Bool.and_eq_true, Bool.not_eq_true', List.all_eq_true] at hch
      obtain ⟨⟨⟨hxl, hdl⟩, hrest⟩, hnotT⟩ := hch
      simp only [ANode.tokensAreLeavesL, Bool.and_eq_true] at hlexL
      refine ⟨lhs, rest, a, rfl, ⟨hxl, hlexL.1, hqc lhs List.mem_cons_self, fun hkl => by simpa [hkl] using hdl⟩, hrest,
        fun c hc => ⟨tokensAreLeavesL_mem hlexL.2 hc, hqc c (List.mem_cons_of_mem _ hc), fun hkc => by simpa [hkc] using hnotT c hc⟩, ?_⟩
      rw [specAll_enabled (k := .binary) _ (show a.disabled = false from hd) rfl, specAllL_cons]

/-- **The resolved operator chain**, processed innermost first, leaves the stylist with items that
carry the whole expression. -/
theorem binChain_carries (e : Env) (r : Rec) (hr : RecOK r Q) (hQ : BinQ Q) (ctx : Ctx) (hnm : NM ctx) (prec : Nat) :
    ∀ (fuel : Nat) (n : ANode), isExpr n = true → ANode.tokensAreLeaves n = true → Q n → n.depth ≤ fuel →
      (n.kind = .binary → n.attrs.disabled = false) →
      ∀ (acc : CS × Bool) (sp : Streams), CInvS acc.1 acc.2 sp →
      Post ((resolveBinaryChain prec fuel n).reverse.foldlM
          (CS.nodeStepM e ctx (fun node => node.kind == .binary && precOf (binaryOp node) == prec) (binOpConv e) (exprOpt r) (exprOpt r)) acc)
        (fun r' => CInvS r'.1 r'.2 (sp.app (specAll n))) := by
  intro fuel n hx hlex hq hd hdis
  refine chain_carries (Good := ChainNode Q (· = .binary)) ?_ ?_ (resolveBinaryChain_isChain prec hd) ⟨hx, hlex, hq, hdis⟩
  · exact fun n hn hnl => nodeStepM_fallback_carries hnl (exprOpt_carries hr hnm hn.expr hn.q)
  · intro n hn hcond
    have hkb : n.kind = .binary := eq_of_beq (Bool.and_eq_true_iff.mp hcond).1
    obtain ⟨lhs, rest, a, rfl, hl, hrest, hall, hspec⟩ := hQ.shape hn.q hkb (hn.enabled hkb)
    exact ⟨lhs, _, firstWhere_cons hl.expr, hl, hspec,
      nodeStepM_operand_carries hcond (fun st => by rw [binOpConv_expr st hl.expr]; exact Post.pure rfl)
        hl.expr (binRest_fold hr hnm rest hrest hall)⟩

theorem convBinaryChain_carries (hr : RecOK r Q) (hQ : BinQ Q) (hnm : NM ctx) {n : ANode}
    (hx : isExpr n = true) (hlex : ANode.tokensAreLeaves n = true) (hq : Q n) (hdis : n.attrs.disabled = false) :
    Post (convBinaryChain e r ctx n) (fun d => Carries d (specAll n)) := by
  unfold convBinaryChain CS.processM
  simp only [bind_assoc, pure_bind]
  exact Post.bind (binChain_carries e r hr hQ ctx hnm _ n.depth n hx hlex hq (Nat.le_refl _) (fun _ => hdis) ({}, false) {} .empty)
    (fun r' h => chain_print_carries e false true (by simpa using h))

theorem binaryFlowProducer_ok (hr : RecOK r Q) : ProducerS (binaryFlowProducer e r) specAll (ChildOK Q) := fun _ c child hnm hok =>
  Post.ite (fun hk => Post.pure (tok_carries e child hok.1 (binOp_plain _ hk))) fun _ =>
  Post.ite (fun hx => Post.map (hr.expr c child hnm hx hok.2)) fun _ =>
  space_or_reject hok.1

theorem convBinary_carries (e : Env) (r : Rec) (hr : RecOK r Q) (hQ : BinQ Q) (ctx : Ctx) (hnm : NM ctx)
    (cs : List ANode) (a : Attrs) (hq : Q (.inner .binary cs a)) (hdis : a.disabled = false) :
    Post (convBinary e r ctx (.inner .binary cs a)) (fun d => Carries d (specAll (.inner .binary cs a))) := by
  obtain ⟨-, hlexL, hqc⟩ := hQ.inner cs a hq hdis
  unfold convBinary
  split
  · exact parenthesizeIfNecessary_carries e ctx hnm fun ctx hnm => convBinaryChain_carries hr hQ hnm rfl hlexL hq hdis
  · exact flow_construct_carries e ctx .binary cs a () (binaryFlowProducer e r) (binaryFlowProducer_ok hr)
      (isVerbatimNode_enabled cs hdis (by decide)) (by decide) hlexL hqc hnm

end Typstyle
