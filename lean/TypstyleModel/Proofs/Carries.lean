import TypstyleModel.Proofs.Monad
import TypstyleModel.Proofs.KindClass
/-! Stream preservation without certificates (route M), built compositionally: for every tree of the fragment `inFrag`.

`Carries d s`: the document family `d` is `good` (its dynamic side conditions held) and carries the
five stream texts `s` — by `Twin.Doc.emits` every consistent layout of every member of the family then
contains exactly these texts. -/
namespace Typstyle
open Twin

theorem Streams.ext' {a b : Streams} (h1 : a.tok = b.tok) (h2 : a.cmt = b.cmt) (h3 : a.prose = b.prose)
    (h4 : a.lit = b.lit) (h5 : a.verb = b.verb) : a = b := by
  cases a; cases b; simp_all

@[simp] theorem Streams.app_empty (s : Streams) : s.app {} = s := by
  apply Streams.ext' <;> simp [Streams.app]

@[simp] theorem Streams.empty_app (s : Streams) : Streams.app {} s = s := by
  apply Streams.ext' <;> simp [Streams.app]

@[simp] theorem Streams.app_assoc (a b c : Streams) : (a.app b).app c = a.app (b.app c) := by
  apply Streams.ext' <;> simp [Streams.app, String.append_assoc]

/-- A check `pL` written by recursion over the list is `List.all p`, so that core's lemmas about `all` apply to it. -/
theorem Bool.allL_eq_all {α : Type} {p : α → Bool} {pL : List α → Bool} (hnil : pL [] = true)
    (hcons : ∀ x l, pL (x :: l) = (p x && pL l)) (l : List α) : pL l = l.all p := by
  induction l with
  | nil => exact hnil
  | cons x xs ih => rw [hcons, ih, List.all_cons]

theorem Bool.allL_append {α : Type} {p : α → Bool} {pL : List α → Bool} (hnil : pL [] = true)
    (hcons : ∀ x l, pL (x :: l) = (p x && pL l)) (a b : List α) : pL (a ++ b) = (pL a && pL b) := by
  simp only [Bool.allL_eq_all hnil hcons, List.all_append]

section
-- `sem`/`semL` is any stream semantics of elements and lists: `specAll`/`specAllL`, rows of cells, lines of nodes.
variable {α β : Type} {step : β → α → M β} {sem : α → Streams} {semL : List α → Streams}
  (hnil : semL [] = {}) (hcons : ∀ x l, semL (x :: l) = (sem x).app (semL l))
include hnil hcons

theorem Streams.semL_append (a b : List α) : semL (a ++ b) = (semL a).app (semL b) := by
  induction a with
  | nil => rw [List.nil_append, hnil, Streams.empty_app]
  | cons x xs ih => rw [List.cons_append, hcons, hcons, ih, Streams.app_assoc]

theorem Streams.foldl_app (l : List α) (s : Streams) : l.foldl (fun s x => s.app (sem x)) s = s.app (semL l) := by
  induction l generalizing s with
  | nil => rw [hnil, Streams.app_empty]; rfl
  | cons x xs ih => rw [List.foldl_cons, ih, hcons, Streams.app_assoc]

theorem Post.foldlM_sem {I : β → Streams → List α → Prop}
    (hstep : ∀ acc s x rest, I acc s (x :: rest) → Post (step acc x) (fun acc' => I acc' (s.app (sem x)) rest))
    (l : List α) (acc : β) (s : Streams) (h : I acc s l) : Post (l.foldlM step acc) (fun acc' => I acc' (s.app (semL l)) []) :=
  Streams.foldl_app hnil hcons l s ▸ Post.foldlM_ghost hstep l acc s h

theorem Post.foldlM_sem_ok {I : β → Streams → Prop} {ok : α → Prop}
    (hstep : ∀ acc s x, I acc s → ok x → Post (step acc x) (fun acc' => I acc' (s.app (sem x))))
    (l : List α) (hall : ∀ x ∈ l, ok x) (acc : β) (s : Streams) (h : I acc s) :
    Post (l.foldlM step acc) (fun acc' => I acc' (s.app (semL l))) :=
  (Post.foldlM_sem hnil hcons (I := fun acc s rest => I acc s ∧ ∀ x ∈ rest, ok x)
    (fun acc s x _ h => (hstep acc s x h.1 (h.2 x List.mem_cons_self)).mono
      (fun _ h' => ⟨h', fun y hy => h.2 y (List.mem_cons_of_mem _ hy)⟩)) l acc s ⟨h, hall⟩).mono (fun _ h' => h'.1)

/-- `Post.foldlM_sem_ok` for a pure fold; `okL` is the check of a list in the form the caller holds it (`docsGood`,
`itemsGood`, `List.all p`). -/
theorem foldl_sem_ok {f : β → α → β} {I : β → Streams → Prop} {ok : α → Bool} {okL : List α → Bool}
    (hokL : ∀ x l, okL (x :: l) = (ok x && okL l))
    (hstep : ∀ acc s x, I acc s → ok x = true → I (f acc x) (s.app (sem x)))
    (l : List α) (hl : okL l = true) (acc : β) (s : Streams) (h : I acc s) : I (l.foldl f acc) (s.app (semL l)) := by
  induction l generalizing acc s with
  | nil => rwa [hnil, Streams.app_empty]
  | cons x xs ih =>
    rw [hokL, Bool.and_eq_true] at hl
    rw [hcons, ← Streams.app_assoc]
    exact ih hl.2 _ _ (hstep acc s x h hl.1)


/-- Dropping, from the end of a list, elements that carry nothing (`drop_trailing_linebreaks` of the list stylist and of
the plain one) changes neither what the list carries nor that it is good. -/
theorem Streams.semL_dropTrailing {ok : α → Bool} {okL : List α → Bool} (honil : okL [] = true)
    (hocons : ∀ x l, okL (x :: l) = (ok x && okL l)) {p : α → Bool} (hp : ∀ x, p x = true → sem x = {}) (l : List α) :
    semL (l.reverse.dropWhile p).reverse = semL l ∧ (okL l = true → okL (l.reverse.dropWhile p).reverse = true) := by
  rw [← List.reverse_reverse l]
  generalize l.reverse = r
  simp only [List.reverse_reverse]
  induction r with
  | nil => exact ⟨rfl, id⟩
  | cons x xs ih =>
    rw [List.dropWhile_cons]
    split
    · next h =>
      rw [List.reverse_cons, Streams.semL_append hnil hcons, Bool.allL_append honil hocons, hcons, hnil, hp x h, Bool.and_eq_true]
      exact ⟨by simpa using ih.1, fun hg => ih.2 hg.1⟩
    · exact ⟨rfl, id⟩

end

/-- The family is good and carries the streams `s`. -/
def Carries (d : Doc) (s : Streams) : Prop := d.good = true ∧ d.ss = s

theorem Carries.app {a b : Doc} {sa sb : Streams} (ha : Carries a sa) (hb : Carries b sb) : Carries (a ++ b) (sa.app sb) := by
  obtain ⟨ga, rfl⟩ := ha
  obtain ⟨gb, rfl⟩ := hb
  exact ⟨by show (a.good && b.good) = true; simp [ga, gb], rfl⟩

theorem carries_self (d : Doc) (h : d.good = true) : Carries d d.ss := ⟨h, rfl⟩

theorem Carries.congr {d : Doc} {s t : Streams} (h : Carries d s) (e : s = t) : Carries d t := e ▸ h

theorem Carries.grp {d : Doc} {s : Streams} (h : Carries d s) : Carries d.grp s := h
theorem Carries.nstTab {d : Doc} {s : Streams} (h : Carries d s) : Carries d.nstTab s := h

theorem Carries.falt {b f : Doc} {s : Streams} (hb : Carries b s) (hf : Carries f s) : Carries (Doc.falt b f) s := by
  obtain ⟨gb, rfl⟩ := hb
  obtain ⟨gf, hfs⟩ := hf
  exact ⟨by show (b.good && f.good && b.ss == f.ss) = true; simp [gb, gf, hfs], rfl⟩

theorem Carries.nil : Carries Doc.nil {} := ⟨rfl, rfl⟩
theorem Carries.space : Carries Twin.space {} := ⟨rfl, rfl⟩
theorem Carries.hardline : Carries Twin.hardline {} := ⟨rfl, rfl⟩
theorem Carries.line : Carries Twin.line {} := Carries.falt Carries.hardline Carries.space
theorem Carries.line_ : Carries Twin.line_ {} := Carries.falt Carries.hardline Carries.nil

theorem Carries.enclose {d a b : Doc} {s sa sb : Streams} (hd : Carries d s) (ha : Carries a sa) (hb : Carries b sb) :
    Carries (d.enclose a b) ((sa.app s).app sb) := (ha.app hd).app hb

theorem Carries.repeatN {d : Doc} (h : Carries d {}) (n : Nat) : Carries (Twin.repeatN d n) {} := by
  induction n with
  | zero => exact Carries.nil
  | succ n ih => exact (ih.app h).congr (Streams.app_empty _)

theorem Carries.ite_cases {c : Prop} [Decidable c] {a b : Doc} {s : Streams} (ha : c → Carries a s) (hb : ¬c → Carries b s) :
    Carries (if c then a else b) s := by
  split
  · exact ha ‹_›
  · exact hb ‹_›

theorem Carries.ite {c : Prop} [Decidable c] {a b : Doc} {s : Streams} (ha : Carries a s) (hb : Carries b s) :
    Carries (if c then a else b) s := Carries.ite_cases (fun _ => ha) (fun _ => hb)

/-- The streams of a text with ghost tag `tag`. -/
def tagS (tag : Pretty.Tag) (s : String) : Streams :=
  ⟨String.ofList (Pretty.charsOf .tok tag s), String.ofList (Pretty.charsOf .cmt tag s),
   String.ofList (Pretty.charsOf .prose tag s), String.ofList (Pretty.charsOf .lit tag s),
   String.ofList (Pretty.charsOf .verb tag s)⟩

theorem Carries.mkText (wd : String → Nat) (tag : Pretty.Tag) (s : String) : Carries (Twin.mkText wd tag s) (tagS tag s) :=
  ⟨rfl, rfl⟩

theorem tagS_eq (tag : Pretty.Tag) (s : String) : tagS tag s =
    ⟨if tag = .comment then "" else Pretty.keepOf s,
     if tag = .comment then String.ofList (s.toList.filter fun c => !isWs c) else "",
     if tag = .prose ∨ tag = .plit then s else "", if tag = .lit ∨ tag = .plit then s else "",
     if tag = .verbatim then s else ""⟩ := by
  simp only [tagS, Pretty.charsOf, Pretty.keepOf, apply_ite String.ofList, String.ofList_toList, String.ofList_nil]

theorem tagS_empty (tag : Pretty.Tag) : tagS tag "" = {} := by
  simp [tagS_eq, Pretty.keepOf]

/-- A re-synthesised delimiter or separator (`( ) { } , ; :` or blanks): no stream accounts for it. -/
theorem tagS_of_noKeep {tag : Pretty.Tag} (ht : tag = .soft ∨ tag = .syn ∨ tag = .tok) (s : String)
    (h : s.toList.filter Pretty.keepChar = []) : tagS tag s = {} := by
  rcases ht with rfl | rfl | rfl <;> simp [tagS_eq, Pretty.keepOf, h]

theorem tagS_syn_of_noKeep (s : String) (h : s.toList.filter Pretty.keepChar = []) : tagS .syn s = {} :=
  tagS_of_noKeep (.inr (.inl rfl)) s h

theorem tagS_syn_eq_tok (s : String) : tagS .syn s = tagS .tok s := by
  simp [tagS_eq]

theorem tagS_syn_append (a b : String) : tagS .syn (a ++ b) = (tagS .syn a).app (tagS .syn b) := by
  apply Streams.ext' <;> simp [tagS, Pretty.charsOf, Streams.app, String.toList_append, List.filter_append, String.ofList_append]

/-- The streams a comment leaf prescribes. -/
def commentS (text : String) : Streams := { cmt := String.ofList (text.toList.filter fun c => !isWs c) }

theorem tagS_comment (s : String) : tagS .comment s = commentS s := by
  simp [tagS_eq, commentS]

theorem Carries.soft (e : Env) (s : String) (h : s.toList.filter Pretty.keepChar = []) : Carries (e.soft s) {} :=
  (Carries.mkText e.wd .soft s).congr (tagS_of_noKeep (.inl rfl) s h)

theorem Carries.syn (e : Env) (s : String) (h : s.toList.filter Pretty.keepChar = []) : Carries (e.syn s) {} :=
  (Carries.mkText e.wd .syn s).congr (tagS_syn_of_noKeep s h)

def specAll (n : ANode) : Streams := ⟨specToks n, specCmts n, specProse n, specLit n, specVerb n⟩
def specAllL (cs : List ANode) : Streams := ⟨specToksL cs, specCmtsL cs, specProseL cs, specLitL cs, specVerbL cs⟩

@[simp] theorem specAllL_nil : specAllL [] = {} := by
  simp [specAllL, specToksL, specCmtsL, specProseL, specLitL, specVerbL]

theorem specAllL_cons (c : ANode) (cs : List ANode) : specAllL (c :: cs) = (specAll c).app (specAllL cs) := by
  simp [specAllL, specAll, Streams.app, specToksL, specCmtsL, specProseL, specLitL, specVerbL]

theorem specAllL_append (a b : List ANode) : specAllL (a ++ b) = (specAllL a).app (specAllL b) :=
  Streams.semL_append specAllL_nil specAllL_cons a b

theorem specAllL_snoc (a : List ANode) (c : ANode) : specAllL (a ++ [c]) = (specAllL a).app (specAll c) := by
  rw [specAllL_append, specAllL_cons, specAllL_nil, Streams.app_empty]

theorem specAllL_flatMap_children (p : ANode → Bool) (cs : List ANode) (h : ∀ c ∈ cs, p c = true → specAll c = specAllL c.children) :
    specAllL (cs.flatMap fun c => if p c then c.children else [c]) = specAllL cs := by
  induction cs with
  | nil => rfl
  | cons c cs ih =>
    rw [List.flatMap_cons, specAllL_append, ih (fun x hx => h x (List.mem_cons_of_mem _ hx)), specAllL_cons]
    congr 1
    split
    · exact (h c List.mem_cons_self ‹_›).symm
    · rw [specAllL_cons, specAllL_nil, Streams.app_empty]

theorem specAllL_filter (p : ANode → Bool) (cs : List ANode) (h : ∀ c ∈ cs, p c = false → specAll c = {}) :
    specAllL (cs.filter p) = specAllL cs := by
  induction cs with
  | nil => rfl
  | cons c cs ih =>
    have ih := ih (fun x hx => h x (List.mem_cons_of_mem _ hx))
    rw [List.filter_cons, specAllL_cons]
    cases hp : p c
    · rw [if_neg Bool.false_ne_true, ih, h c List.mem_cons_self hp, Streams.empty_app]
    · rw [if_pos rfl, specAllL_cons, ih]

theorem specAll_inner (k : Kind) (cs : List ANode) (a : Attrs) (hv : isVerbatimNode k cs a = false) (hr : k ≠ .raw) :
    specAll (.inner k cs a) = specAllL cs := by
  simp [specAll, specAllL, specToks, specCmts, specProse, specLit, specVerb, hv, beq_false_of_ne hr]

theorem isVerbatimNode_enabled {k : Kind} (cs : List ANode) {a : Attrs} (hd : a.disabled = false) (hk : k ≠ .codeBlock) :
    isVerbatimNode k cs a = false := by
  rw [isVerbatimNode, hd, beq_false_of_ne hk]; rfl

theorem specAll_enabled {k : Kind} (cs : List ANode) {a : Attrs} (hd : a.disabled = false)
    (hk : (k == .codeBlock || k == .raw) = false) : specAll (.inner k cs a) = specAllL cs := by
  simp only [Bool.or_eq_false_iff, beq_eq_false_iff_ne] at hk
  exact specAll_inner k cs a (isVerbatimNode_enabled cs hd hk.1) hk.2

theorem specAll_verbatim (k : Kind) (cs : List ANode) (a : Attrs) (hv : isVerbatimNode k cs a = true) :
    specAll (.inner k cs a) = tagS .verbatim (ANode.intoTextL cs) := by
  simp [specAll, specToks, specCmts, specProse, specLit, specVerb, hv, tagS_eq]

theorem specAll_inner_nil (k : Kind) (a : Attrs) (hr : k ≠ .raw) : specAll (.inner k [] a) = {} := by
  cases hv : isVerbatimNode k [] a
  · rw [specAll_inner k [] a hv hr, specAllL_nil]
  · rw [specAll_verbatim k [] a hv]; exact tagS_empty _

/-- A kind that no entry point emits verbatim (argument lists, named and spread arguments, markup, import items …). -/
theorem isVerbatimNode_never {k : Kind} (cs : List ANode) (a : Attrs)
    (hk : (k.isExpr || k == .math || k == .code || k == .destructuring || k == .codeBlock) = false) :
    isVerbatimNode k cs a = false := by
  rw [Bool.or_eq_false_iff] at hk
  rw [isVerbatimNode, hk.1, hk.2, Bool.and_false, Bool.false_and]
  rfl

theorem specAll_never_verbatim {k : Kind} (cs : List ANode) (a : Attrs)
    (hk : (k.isExpr || k == .math || k == .code || k == .destructuring || k == .codeBlock || k == .raw) = false) :
    specAll (.inner k cs a) = specAllL cs := by
  rw [Bool.or_eq_false_iff] at hk
  exact specAll_inner k cs a (isVerbatimNode_never cs a hk.1) (beq_eq_false_iff_ne.mp hk.2)

theorem specAll_args (cs : List ANode) (a : Attrs) : specAll (.inner .args cs a) = specAllL cs :=
  specAll_never_verbatim cs a rfl

/-- The five `spec*` functions test the kind of a leaf in five different ways; together they say that its text
counts under one ghost tag, which the kind and the `@typstyle off` mark (`off`) determine: a comment as comment;
a leaf printed from its own text under the tag `leafTag` gives it; a marked expression leaf with no tag of its
own verbatim; every other token as a code token. -/
def leafSpecTag (k : Kind) (off : Bool) : Pretty.Tag :=
  if isCommentKind k then .comment else (leafTag k).getD (if off && k.isExpr then .verbatim else .tok)

theorem specAll_leaf (k : Kind) (t : String) (a : Attrs) (hw : (k == .space || k == .parbreak) = false)
    (hr : (k == .refMarker) = false) : specAll (.leaf k t a) = tagS (leafSpecTag k a.disabled) t := by
  have hs := Bool.or_eq_false_iff.mp hw
  simp only [specAll, specToks, specCmts, specProse, specLit, specVerb, leafTag_prose, leafTag_lit, hr, hs.1, hs.2, bne,
    Bool.or_false, Bool.not_false, Bool.and_true, tagS_eq, leafSpecTag]
  cases hc : isCommentKind k with
  | true =>
    have : leafTag k = none ∧ k.isExpr = false := by
      simp only [isCommentKind, Bool.or_eq_true, beq_iff_eq] at hc
      rcases hc with rfl | rfl <;> exact ⟨rfl, rfl⟩
    simp [this]
  | false =>
    cases hl : leafTag k with
    | none => by_cases hv : a.disabled = true ∧ k.isExpr = true <;> simp [hv]
    | some tag =>
      have := leafTag_not_comment_verbatim k
      simp only [hl, Bool.or_eq_false_iff, beq_eq_false_iff_ne, ne_eq, Option.some.injEq] at this
      simp [this]

theorem specAll_tagged_leaf (k : Kind) (t : String) (a : Attrs) {tag : Pretty.Tag} (h : leafTag k = some tag) :
    specAll (.leaf k t a) = tagS tag t := by
  have hb := fun k0 (h0 : (leafTag k0).isSome = false) =>
    Kind.beq_false_of_class (p := fun k => (leafTag k).isSome) (by rw [h]; rfl) h0
  rw [specAll_leaf k t a (by rw [hb _ rfl, hb _ rfl]; rfl) (hb _ rfl), leafSpecTag, isCommentKind, hb _ rfl, hb _ rfl, h]
  rfl

theorem specAll_ws_leaf (k : Kind) (t : String) (a : Attrs) (hw : (k == .space || k == .parbreak) = true) :
    specAll (.leaf k t a) = {} := by
  simp only [Bool.or_eq_true, beq_iff_eq] at hw
  rcases hw with rfl | rfl <;>
    simp [specAll, specToks, specCmts, specProse, specLit, specVerb, isCommentKind]

theorem specAll_empty_leaf (k : Kind) (a : Attrs) : specAll (.leaf k "" a) = {} := by
  simp [specAll, specToks, specCmts, specProse, specLit, specVerb, Pretty.keepOf]

theorem leafSpecTag_plain {k : Kind} (h : k.isPlainToken = true) (off : Bool) : leafSpecTag k off = .tok := by
  obtain ⟨-, hx, hc, -, -, -, hu⟩ := (Kind.isPlainToken_iff k).mp h
  have hl := Kind.leafTag_expr k
  rw [hx, hu] at hl
  have hl' : leafTag k = none := by simpa using hl
  simp [leafSpecTag, hc, hl', hx]

theorem specAll_plain_leaf (k : Kind) (t : String) (a : Attrs) (h : k.isPlainToken = true) :
    specAll (.leaf k t a) = tagS .tok t := by
  obtain ⟨-, -, -, hw, hr, -, -⟩ := (Kind.isPlainToken_iff k).mp h
  rw [specAll_leaf k t a hw hr, leafSpecTag_plain h]

theorem specAll_comment_leaf (k : Kind) (t : String) (a : Attrs) (hk : isCommentKind k = true) :
    specAll (.leaf k t a) = commentS t := by
  have hb := fun k0 (h0 : isCommentKind k0 = false) => Kind.beq_false_of_class (p := isCommentKind) hk h0
  rw [specAll_leaf k t a (by rw [hb _ rfl, hb _ rfl]; rfl) (hb _ rfl), leafSpecTag, if_pos hk, tagS_comment]

theorem specAll_parbreak_leaf (t : String) (a : Attrs) : specAll (.leaf .parbreak t a) = {} :=
  specAll_ws_leaf .parbreak t a rfl

end Typstyle
