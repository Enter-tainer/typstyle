import TypstyleModel.Model.Range
/-! Range selection (`get_node_cover_range`): `cover` is a search for the first node in post-order that
`Fits`; it is sound (`cover_sound`: what it returns occurs in the tree, fits, and was reached after its
own children had been searched in vain) and complete (`cover_complete`: it fails only if no node of the
tree fits). -/
namespace Typstyle

def ENode.children : ENode → List ENode
  | .leaf _ _ _ => []
  | .inner _ cs _ => cs

/-- `Occurs root off m off'`: `m` is a node of the tree `root` (which starts at byte `off`) and starts at byte `off'`. -/
inductive Occurs : ENode → Nat → ENode → Nat → Prop
  | here {n off} : Occurs n off n off
  | child {k err pre c post off m off'} : Occurs c (off + ENode.lenL pre) m off' → Occurs (.inner k (pre ++ c :: post) err) off m off'

theorem lenL_append (a b : List ENode) : ENode.lenL (a ++ b) = ENode.lenL a + ENode.lenL b := by
  induction a with
  | nil => simp [ENode.lenL]
  | cons x xs ih => simp only [List.cons_append, ENode.lenL, ih]; omega

abbrev Fits (s e : Nat) (m : ENode) (off' : Nat) : Prop :=
  off' ≤ s ∧ e ≤ off' + m.len ∧ isCoverKind m.kind = true

theorem ENode.induct {P : ENode → Prop} (step : ∀ n, (∀ c ∈ n.children, P c) → P n) : ∀ n, P n :=
  let rec all : ∀ cs : List ENode, ∀ c ∈ cs, P c
    | [], _, h => nomatch h
    | c :: cs, x, h => by
      cases h with
      | head => exact ENode.induct step c
      | tail _ h => exact all cs x h
  fun
  | .leaf _ _ _ => step _ nofun
  | .inner _ cs _ => step _ (all cs)

theorem Occurs.of_children {n pre c post off m off'} (hn : n.children = pre ++ c :: post)
    (h : Occurs c (off + ENode.lenL pre) m off') : Occurs n off m off' := by
  cases n with
  | leaf => simp [ENode.children] at hn
  | inner k cs err => cases hn; exact .child h

theorem Occurs.bounds {n off m off'} (h : Occurs n off m off') : off ≤ off' ∧ off' + m.len ≤ off + n.len := by
  induction h with
  | here => exact ⟨Nat.le_refl _, Nat.le_refl _⟩
  | child _ ih => simp only [ENode.len, lenL_append, ENode.lenL]; omega

/-- Both shapes of node at once: the children are searched first, then the node itself is tried. -/
theorem cover_eq (s e : Nat) (n : ENode) (off : Nat) (mode : LMode) :
    cover s e n off mode = (coverL s e n.children off (modeOfKind n.kind mode)).or
      (if off ≤ s && off + n.len ≥ e && isCoverKind n.kind then some (n, off, modeOfKind n.kind mode) else none) := by
  cases n with
  | leaf k t err => simp only [cover, coverL, ENode.children, ENode.len, ENode.kind, Option.none_or]; rfl
  | inner k cs err =>
    simp only [cover, ENode.children, ENode.len, ENode.kind]
    cases coverL s e cs off (modeOfKind k mode) <;> rfl

theorem fits_iff {s e n off} : (off ≤ s && off + n.len ≥ e && isCoverKind n.kind) = true ↔ Fits s e n off := by
  simp [Fits, and_assoc]

theorem coverL_some {s e cs off md r} (h : coverL s e cs off md = some r) :
    ∃ pre c post, cs = pre ++ c :: post ∧ cover s e c (off + ENode.lenL pre) md = some r := by
  induction cs generalizing off with
  | nil => simp [coverL] at h
  | cons c cs ih =>
    rw [coverL] at h
    split at h
    · next hc => cases h; exact ⟨[], c, cs, rfl, hc⟩
    · obtain ⟨pre, c', post, rfl, h'⟩ := ih h
      exact ⟨c :: pre, c', post, rfl, by rwa [ENode.lenL, ← Nat.add_assoc]⟩

theorem coverL_none {s e pre c post off md} (h : coverL s e (pre ++ c :: post) off md = none) :
    cover s e c (off + ENode.lenL pre) md = none := by
  induction pre generalizing off with
  | nil =>
    rw [List.nil_append, coverL] at h
    split at h
    · cases h
    · assumption
  | cons p pre ih =>
    rw [List.cons_append, coverL] at h
    split at h
    · cases h
    · rw [ENode.lenL, ← Nat.add_assoc]; exact ih h

theorem cover_sound {s e n off mode r} (h : cover s e n off mode = some r) :
    Occurs n off r.1 r.2.1 ∧ Fits s e r.1 r.2.1 ∧ ∃ md, coverL s e r.1.children r.2.1 md = none := by
  induction n using ENode.induct generalizing off mode with
  | step n ih =>
    rw [cover_eq] at h
    cases hL : coverL s e n.children off (modeOfKind n.kind mode) with
    | some r' =>
      rw [hL, Option.some_or] at h
      cases h
      obtain ⟨pre, c, post, hcs, hc⟩ := coverL_some hL
      obtain ⟨ho, hf, hm⟩ := ih c (by simp [hcs]) hc
      exact ⟨ho.of_children hcs, hf, hm⟩
    | none =>
      rw [hL, Option.none_or] at h
      split at h
      · next hf => cases h; exact ⟨.here, fits_iff.mp hf, _, hL⟩
      · cases h

theorem cover_complete {s e n off mode m off'} (h : cover s e n off mode = none) (ho : Occurs n off m off') :
    ¬ Fits s e m off' := by
  induction ho generalizing mode with
  | here =>
    intro hf
    rw [cover_eq, if_pos (fits_iff.mpr hf)] at h
    simp at h
  | child _ ih =>
    rw [cover_eq] at h
    exact ih (coverL_none (Option.or_eq_none_iff.mp h).1)

/-- Whether a covering node is found does not depend on the mode that is threaded through: failure
means that no node fits, and that does not mention the mode. -/
theorem cover_none_mode (s e : Nat) : (n : ENode) → (off : Nat) → (m m' : LMode) →
    cover s e n off m = none → cover s e n off m' = none := by
  intro n off m m' h
  cases h' : cover s e n off m' with
  | none => rfl
  | some r => have ⟨ho, hf, _⟩ := cover_sound h'; exact (cover_complete h ho hf).elim

theorem coverL_none_mode {s e cs off m} (m' : LMode) (h : coverL s e cs off m = none) : coverL s e cs off m' = none := by
  cases h' : coverL s e cs off m' with
  | none => rfl
  | some r =>
    obtain ⟨pre, c, post, rfl, hc⟩ := coverL_some h'
    rw [cover_none_mode s e c _ m m' (coverL_none h)] at hc
    cases hc

theorem coverL_spec (s e : Nat) : (cs : List ENode) → (off : Nat) → (mode : LMode) → (m : ENode) → (off' : Nat) → (mode' : LMode) →
    coverL s e cs off mode = some (m, off', mode') →
    off' ≤ s ∧ e ≤ off' + m.len ∧ isCoverKind m.kind = true ∧ off ≤ off' ∧ off' + m.len ≤ off + ENode.lenL cs := by
  intro cs off mode m off' mode' h
  obtain ⟨pre, c, post, rfl, hc⟩ := coverL_some h
  obtain ⟨ho, ⟨h1, h2, h3⟩, _⟩ : Occurs c _ m off' ∧ Fits s e m off' ∧ _ := cover_sound hc
  have := ho.bounds
  refine ⟨h1, h2, h3, by omega, ?_⟩
  simp only [lenL_append, ENode.lenL]
  omega

theorem coverL_occurs (s e : Nat) : (cs : List ENode) → (off : Nat) → (mode : LMode) → (m : ENode) → (off' : Nat) → (mode' : LMode) →
    coverL s e cs off mode = some (m, off', mode') → ∃ pre c post, cs = pre ++ c :: post ∧ Occurs c (off + ENode.lenL pre) m off' := by
  intro cs off mode m off' mode' h
  obtain ⟨pre, c, post, rfl, hc⟩ := coverL_some h
  exact ⟨pre, c, post, rfl, (cover_sound hc).1⟩

/-- The covering node is the innermost one. -/
theorem coverL_minimal (s e : Nat) : (cs : List ENode) → (off : Nat) → (mode : LMode) → (m : ENode) → (off' : Nat) → (mode' : LMode) →
    coverL s e cs off mode = some (m, off', mode') → ∀ md, coverL s e m.children off' md = none := by
  intro cs off mode m off' mode' h md
  obtain ⟨pre, c, post, rfl, hc⟩ := coverL_some h
  have ⟨_, _, _, hm⟩ := cover_sound hc
  exact coverL_none_mode md hm

/-- The conversion stage returns the covering node: its start offset, its length, and the family
printed for exactly that node (annotated). -/
theorem formatRangeDoc_ok {cfg : Config} {wd : String → Nat} {src : String} {root : ENode} {a b : Nat}
    {t : ANode} {off len : Nat} {d : Twin.Doc} {indent : Nat}
    (h : formatRangeDoc cfg wd src root a b = .ok t off len d indent) :
    ∃ n mode,
      cover (trimRange src.toList (min a src.utf8ByteSize) (min b src.utf8ByteSize)).1
        (min (trimRange src.toList (min a src.utf8ByteSize) (min b src.utf8ByteSize)).2 src.utf8ByteSize)
        root 0 .markup = some (n, off, mode)
      ∧ n.erroneous = false ∧ t = prepare n.toNode ∧ len = n.len ∧
      ∃ k, ((if n.kind == .markup then (knot { cfg := cfg.toP, wd := wd } (2 * t.depth + 2)).markup { mode := mode } t .document
        else if n.kind.isExpr then (knot { cfg := cfg.toP, wd := wd } (2 * t.depth + 2)).expr { mode := mode } t
        else (knot { cfg := cfg.toP, wd := wd } (2 * t.depth + 2)).pattern { mode := mode } t).run { limit := t.size }) = .ok (d, k) := by
  unfold formatRangeDoc at h
  simp only at h
  split at h
  · cases h
  · rename_i n off' mode hcov
    split at h
    · cases h
    · rename_i herr
      split at h
      · cases h
      · rename_i d' k hrun
        simp only [RangeDoc.ok.injEq] at h
        obtain ⟨rfl, rfl, rfl, rfl, _⟩ := h
        exact ⟨n, mode, hcov, by simpa using herr, rfl, rfl, k, hrun⟩

theorem prepare_toNode_kind (n : ENode) : (prepare n.toNode).kind = n.kind := by
  cases n <;> simp [ENode.toNode, prepare, annotate, number, ANode.kind, ENode.kind]

end Typstyle
