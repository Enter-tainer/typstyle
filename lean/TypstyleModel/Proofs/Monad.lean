import TypstyleModel.Model.Env
/-! A minimal partial-correctness logic for the model's monad `M` (state + rejection). -/
namespace Typstyle

@[simp] theorem M.run_pure {α : Type} (a : α) (s : St) : (pure a : M α).run s = .ok (a, s) := rfl

theorem M.run_bind {α β : Type} (x : M α) (f : α → M β) (s : St) :
    (x >>= f).run s = match x.run s with
      | .ok (a, s1) => (f a).run s1
      | .error e => .error e := rfl

@[simp] theorem M.run_reject {α : Type} (r : Reject) (s : St) : (reject r : M α).run s = .error r := rfl

theorem M.ext {α : Type} {x y : M α} (h : x.run = y.run) : x = y := by
  cases x; cases y; simp only at h; subst h; rfl

@[simp] theorem M.pure_bind {α β : Type} (a : α) (f : α → M β) : (pure a >>= f) = f a :=
  M.ext (by funext s; rfl)

@[simp] theorem M.bind_pure {α : Type} (x : M α) : (x >>= pure) = x :=
  M.ext (by
    funext s
    rw [M.run_bind]
    cases x.run s with
    | ok p => rfl
    | error e => rfl)

theorem M.bind_assoc {α β γ : Type} (x : M α) (f : α → M β) (g : β → M γ) : (x >>= f >>= g) = (x >>= fun a => f a >>= g) :=
  M.ext (by
    funext s
    rw [M.run_bind, M.run_bind, M.run_bind]
    cases x.run s with
    | ok p => rfl
    | error e => rfl)

instance : LawfulMonad M := LawfulMonad.mk' (id_map := M.bind_pure) (pure_bind := M.pure_bind) (bind_assoc := M.bind_assoc)

/-- Partial correctness: whenever `x` succeeds, its result satisfies `P`. -/
def Post {α : Type} (x : M α) (P : α → Prop) : Prop := ∀ k a k', x.run k = .ok (a, k') → P a

theorem Post.pure {α : Type} {P : α → Prop} {a : α} (h : P a) : Post (pure a : M α) P := by
  intro k a' k' hr
  cases hr
  exact h

theorem Post.bind {α β : Type} {x : M α} {f : α → M β} {Q : α → Prop} {P : β → Prop}
    (hx : Post x Q) (hf : ∀ a, Q a → Post (f a) P) : Post (x >>= f) P := by
  intro k b k' hr
  rw [M.run_bind] at hr
  split at hr
  next a k1 hxr => exact hf a (hx k a k1 hxr) k1 b k' hr
  next => cases hr

theorem Post.bind_any {α β : Type} {x : M α} {f : α → M β} {P : β → Prop} (hf : ∀ a, Post (f a) P) : Post (x >>= f) P :=
  Post.bind (Q := fun _ => True) (fun _ _ _ _ => trivial) (fun a _ => hf a)

theorem Post.rejected {α : Type} {P : α → Prop} {r : Reject} : Post (Typstyle.reject r : M α) P :=
  fun _ _ _ hr => nomatch hr

theorem Post.mono {α : Type} {x : M α} {P Q : α → Prop} (h : Post x P) (hpq : ∀ a, P a → Q a) : Post x Q :=
  fun k a k' hr => hpq a (h k a k' hr)

theorem Post.and {α : Type} {x : M α} {P R : α → Prop} (h1 : Post x P) (h2 : Post x R) : Post x (fun a => P a ∧ R a) :=
  fun k a k' hr => ⟨h1 k a k' hr, h2 k a k' hr⟩

theorem Post.enter {P : Unit → Prop} (k : Entry) (id : Nat) (h : P ()) : Post (enter k id) P := fun _ _ _ _ => h

theorem Post.map {α β : Type} {x : M α} {f : α → β} {P : β → Prop} (h : Post x (fun a => P (f a))) : Post (f <$> x) P :=
  Post.bind (f := fun a => Pure.pure (f a)) h (fun _ ha => Post.pure ha)

theorem Post.ite {α : Type} {c : Prop} [Decidable c] {x y : M α} {P : α → Prop} (hx : c → Post x P) (hy : ¬c → Post y P) :
    Post (if c then x else y) P := by
  split
  · exact hx ‹_›
  · exact hy ‹_›

/-- The invariant `I acc g rest` relates the accumulator to a ghost value `g`, a pure fold over the input consumed
so far, and to the input `rest` still to come (so that it can carry what is known of the elements, or state that
the accumulator keeps in step with a check of the remaining input). -/
theorem Post.foldlM_ghost {α β γ : Type} {step : β → α → M β} {gstep : γ → α → γ} {I : β → γ → List α → Prop}
    (hstep : ∀ acc g x rest, I acc g (x :: rest) → Post (step acc x) (fun acc' => I acc' (gstep g x) rest)) :
    ∀ (l : List α) (acc : β) (g : γ), I acc g l → Post (l.foldlM step acc) (fun acc' => I acc' (l.foldl gstep g) []) := by
  intro l
  induction l with
  | nil => exact fun _ _ h => Post.pure h
  | cons x xs ih => exact fun acc g h => Post.bind (hstep acc g x xs h) (fun acc' h' => ih acc' _ h')

theorem Post.foldlM {α β : Type} {step : β → α → M β} {Inv : β → Prop} :
    ∀ (l : List α) (init : β), Inv init → (∀ acc x, Inv acc → Post (step acc x) Inv) → Post (l.foldlM step init) Inv :=
  fun l init hi hs =>
    Post.foldlM_ghost (gstep := fun (u : Unit) _ => u) (I := fun acc _ _ => Inv acc) (fun acc _ x _ => hs acc x) l init () hi

end Typstyle
