import TypstyleModel.Proofs.KnotBase
import TypstyleModel.Proofs.CarriesTable
import TypstyleModel.Proofs.CarriesRaw
/-! The knot (route M) outside math mode: for each construct of the fragment `inFrag`, the node's membership in
the fragment yields the hypotheses of the construct's `*_carries` theorem; then the expression entry point
`convExpr_frag`, which dispatches on the kind as `convExprImpl` does. -/
namespace Typstyle
open Twin

variable {e : Env} {r : Rec} {ctx : Ctx} {k : Kind} {cs : List ANode} {a : Attrs} {x : ANode}

theorem flow_frag_of_not_verbatim {σ : Type} (hctx : NM ctx) (hq : inFrag (.inner k cs a) = true)
    (hv : isVerbatimNode k cs a = false) (hk : (k == .equation || k == .raw) = false)
    (st : σ) {producer : σ → Ctx → ANode → M (σ × Option FlowItem)} (hp : ProducerS producer specAll (ChildOK Q)) :
    Post (flowM e ctx cs st producer) (fun d => Carries d (specAll (.inner k cs a))) := by
  simp only [Bool.or_eq_false_iff, beq_eq_false_iff_ne] at hk
  obtain ⟨-, hlex, hqc⟩ := inFrag_inner hq hk.1
  exact flow_construct_carries e ctx k cs a st producer hp hv hk.2 hlex hqc hctx

theorem flow_frag {σ : Type} (hctx : NM ctx) (hq : inFrag (.inner k cs a) = true) (hd : a.disabled = false)
    (hk : (k == .equation || k == .raw || k == .codeBlock) = false)
    (st : σ) {producer : σ → Ctx → ANode → M (σ × Option FlowItem)} (hp : ProducerS producer specAll (ChildOK Q)) :
    Post (flowM e ctx cs st producer) (fun d => Carries d (specAll (.inner k cs a))) := by
  rw [Bool.or_eq_false_iff, beq_eq_false_iff_ne] at hk
  exact flow_frag_of_not_verbatim hctx hq (isVerbatimNode_enabled cs hd hk.2) hk.1 st hp

/-- Each node is an item (`acc`) or is passed over by the list stylist; the checker converts the items and nothing else. -/
theorem list_frag (hctx : NM ctx) {nodes : List ANode} {acc : ANode → Bool}
    (hall : nodes.all (fun x => acc x || isPassable x) = true) (hq : ∀ x ∈ nodes, inFrag x = true)
    {checker : Ctx → ANode → M (Option Doc)}
    (hchk : ∀ c x, NM c → inFrag x = true → Post (checker c x) fun o =>
      match o with
      | some body => Carries body (specAll x)
      | none => acc x = false)
    (hnh : ∀ t a, acc (.leaf .hash t a) = false)
    {s0 : LS} (h0 : s0.items = [] ∧ s0.free = [] ∧ s0.peekHash = false) {post : LS → LS} (hpost : ∀ s, (post s).items = s.items)
    {sty : ListStyle} (hsep : Carries sty.sep {}) (hd0 : Carries sty.d0 {}) (hd1 : Carries sty.d1 {}) :
    Post (do let ls ← s0.processM e ctx nodes checker; pure ((post ls).print e sty)) (fun d => Carries d (specAllL nodes)) := by
  refine list_construct_carries e ctx checker (fun x => inFrag x = true ∧ (acc x || isPassable x) = true) ?_ hctx s0 h0 post hpost
    sty hsep hd0 hd1 nodes (fun x hx => ⟨hq x hx, List.all_eq_true.mp hall x hx⟩) (fun x hx hk => ?_)
  · intro c x hnm ⟨hqx, hax⟩
    refine Post.mono (hchk c x hnm hqx) (fun o ho => ?_)
    cases o with
    | some body => exact ho
    | none =>
      -- not an item, so passed over: a comment, white space, a delimiter or separator
      rw [show acc x = false from ho, Bool.false_or] at hax
      rcases Bool.or_eq_true_iff.mp hax with hc | hi
      · exact triviaS_comment x (inFrag_lex x hqx) hc
      · exact triviaS_ignorable x (inFrag_lex x hqx) hi
  · -- a `#` is a leaf, neither an item nor passed over
    obtain ⟨t, a, hx'⟩ := leaf_of_token (inFrag_lex x (hq x hx)) (by rw [hk]; rfl)
    have := List.all_eq_true.mp hall x hx
    rw [hx', hk, hnh] at this
    cases this

theorem convNamed_frag (hr : RecOK r Q) (hnm : NM ctx) (hq : inFrag x = true) (hk : x.kind = .named) :
    Post (convNamed e r ctx x) (fun d => Carries d (specAll x)) := by
  obtain ⟨cs, a, rfl⟩ := inFrag_inner_of_kind hq hk rfl (by decide)
  exact flow_frag_of_not_verbatim hnm hq (isVerbatimNode_never cs a rfl) rfl false (namedProducer_ok e r hr)

theorem convKeyed_frag (hr : RecOK r Q) (hnm : NM ctx) (hq : inFrag x = true) (hk : x.kind = .keyed) :
    Post (convKeyed e r ctx x) (fun d => Carries d (specAll x)) := by
  obtain ⟨cs, a, rfl⟩ := inFrag_inner_of_kind hq hk rfl (by decide)
  exact flow_frag_of_not_verbatim hnm hq (isVerbatimNode_never cs a rfl) rfl false (keyedProducer_ok e r hr)

theorem convSpread_frag (hr : RecOK r Q) (hnm : NM ctx) (hq : inFrag x = true) (hk : x.kind = .spread) :
    Post (convSpread e r ctx x) (fun d => Carries d (specAll x)) := by
  obtain ⟨cs, a, rfl⟩ := inFrag_inner_of_kind hq hk rfl (by decide)
  exact flow_frag_of_not_verbatim hnm hq (isVerbatimNode_never cs a rfl) rfl () (spreadProducer_ok e r hr)

theorem convArg_frag (hr : RecOK r Q) (hnm : NM ctx) (hq : inFrag x = true) (hax : isArg x = true) :
    Post (convArg e r ctx x) (fun d => Carries d (specAll x)) := by
  unfold convArg
  split
  · exact convNamed_frag hr hnm hq ‹_›
  · exact convSpread_frag hr hnm hq ‹_›
  · rename_i h1 h2
    simp only [isArg, Bool.or_eq_true, beq_iff_eq] at hax
    exact hr.expr ctx x hnm (hax.resolve_left (fun h => h.elim h1 h2)) hq

theorem exprWithOptionalParen_frag (hr : RecOK r Q) (hctx : NM ctx) {useBraces : Bool} (hx : isExpr x = true)
    (hq : inFrag x = true) : Post (exprWithOptionalParen e r ctx x useBraces) (fun d => Carries d (specAll x)) := by
  unfold exprWithOptionalParen
  refine Post.ite (fun _ => hr.expr ctx x hctx hx hq) fun _ => ?_
  cases useBraces <;>
    exact Post.bind (hr.expr _ x (NM.withMode _ (by decide)) hx hq)
      (fun d hd => Post.pure (optionalParen_carries e hd _ _ (by decide) (by decide)))

theorem three_kinds {cs : List ANode} {k0 k1 k2 : Kind} (h : cs.map (·.kind) = [k0, k1, k2]) :
    ∃ c0 c1 c2, cs = [c0, c1, c2] ∧ c0.kind = k0 ∧ c1.kind = k1 ∧ c2.kind = k2 := by
  rcases cs with _ | ⟨c0, _ | ⟨c1, _ | ⟨c2, _ | ⟨c3, rest⟩⟩⟩⟩ <;> simp at h
  exact ⟨c0, c1, c2, rfl, h⟩

/-- A markup body between two delimiter tokens that are printed as constants: content blocks, strong, emphasis. -/
theorem wrapped_frag (hr : RecOK r Q) (hctx : NM ctx) {k0 k1 : Kind} {s0 s1 : String} (scope : Scope) {f : Doc → Doc}
    (hf : ∀ {d s}, Carries d s → Carries (f d) s) (hq : inFrag (.inner k cs a) = true) (hk : k ≠ .equation)
    (hkinds : cs.map (·.kind) = [k0, .markup, k1]) (h0 : k0.fixedTok = some s0) (h1 : k1.fixedTok = some s1) {what : String} :
    Post (do
        let body ← childOr (cs.find? (·.kind == .markup)) what
        let d ← r.markup ctx body scope
        pure ((f d).enclose (e.syn s0) (e.syn s1))) (fun d => Carries d (specAllL cs)) := by
  obtain ⟨-, hlex, hqc⟩ := inFrag_inner hq hk
  obtain ⟨c0, m, c1, rfl, hc0, hm, hc1⟩ := three_kinds hkinds
  simp only [ANode.tokensAreLeavesL, Bool.and_eq_true] at hlex
  have h0m : (c0.kind == .markup) = false :=
    Kind.beq_false_of_class (p := fun k => k.fixedTok.isSome) (by rw [hc0, h0]; rfl) rfl
  have hfind : ([c0, m, c1] : List ANode).find? (fun x => x.kind == .markup) = some m := by
    rw [List.find?_cons, h0m, List.find?_cons, hm]; rfl
  simp only [hfind, childOr, M.pure_bind]
  refine Post.bind (hr.markup ctx m scope hctx hm (hqc m (.tail _ (.head _)))) (fun d hd => Post.pure ?_)
  simpa [specAllL_cons, Streams.app_assoc] using
    (hf hd).enclose (fixedTok_carries e hlex.1 (hc0 ▸ h0)) (fixedTok_carries e hlex.2.2.1 (hc1 ▸ h1))

theorem blockShape_kind (b : ANode) (h : isBlockShape b = true) : (b.kind == .contentBlock) = true := by
  unfold isBlockShape at h
  split at h
  · rfl
  · cases h

theorem block_frag (hr : RecOK r Q) (hctx : NM ctx) {b : ANode} (hs : isBlockShape b = true) (hq : inFrag b = true) :
    Post (convContentBlock e r ctx b) (fun d => Carries d (specAll b)) := by
  unfold isBlockShape at hs
  split at hs
  · simp only [Bool.and_eq_true, beq_iff_eq, Bool.not_eq_true'] at hs
    rw [specAll_enabled _ hs.2 rfl]
    exact wrapped_frag hr hctx .contentBlock (fun h => h.nstTab.grp) hq (by decide) hs.1 rfl rfl
  · cases hs

theorem blocks_frag (hr : RecOK r Q) (hctx : NM ctx) {blocks : List ANode} (hs : blocks.all isBlockShape = true)
    (hq : ∀ b ∈ blocks, inFrag b = true) :
    Post (blocks.mapM (convContentBlock e r ctx)) (fun docs => Carries (concatDocs docs) (specAllL blocks)) := by
  suffices Post (blocks.mapM (convContentBlock e r ctx)) (fun docs => DocsCarry docs (specAllL blocks)) from
    this.mono fun _ h => h.concat
  induction blocks with
  | nil => exact Post.pure ⟨rfl, rfl⟩
  | cons b bs ih =>
    rw [List.all_cons, Bool.and_eq_true] at hs
    rw [List.mapM_cons]
    exact Post.bind (block_frag hr hctx hs.1 (hq b List.mem_cons_self)) fun d hd =>
      Post.bind (ih hs.2 fun x hx => hq x (List.mem_cons_of_mem _ hx)) fun ds hds =>
        Post.pure ⟨by simp [docsGood, hd.1, hds.1], by rw [specAllL_cons, ← hd.2, ← hds.2]; rfl⟩

theorem argsParen_shape (hq : inFrag (.inner .args cs a) = true) (hp : (cs.head?.map (·.kind == .leftParen)).getD false = true) :
    (cs.takeWhile (·.kind != .rightParen)).all (fun x => isArg x || isPassable x) = true ∧
    ∃ rp blocks, cs.dropWhile (·.kind != .rightParen) = rp :: blocks ∧ rp.kind = .rightParen ∧ blocks.all isBlockShape = true := by
  have hch : listChildrenOK .args cs = true := inFrag_shape hq
  simp only [listChildrenOK, hp, ↓reduceIte, Bool.and_eq_true] at hch
  refine ⟨hch.1, ?_⟩
  have hpost := hch.2
  split at hpost
  · rename_i rp blocks hdw
    have := List.head_dropWhile_not (·.kind != .rightParen) (l := cs) (by rw [hdw]; simp)
    simp only [hdw, List.head_cons] at this
    exact ⟨rp, blocks, hdw, by simpa using this, hpost⟩
  · cases hpost

/-- A parenthesised argument list whose parenthesised part is laid out by `pc`. -/
theorem argsParen_with (e : Env) (r : Rec) (hr : RecOK r Q) (ctx : Ctx) (hctx : NM ctx) (cs : List ANode) (a : Attrs)
    (hq : inFrag (.inner .args cs a) = true) (hp : (cs.head?.map (·.kind == .leftParen)).getD false = true)
    (pc : M Doc) (hpc : Post pc (fun d => Carries d (specAllL (cs.takeWhile (·.kind != .rightParen))))) :
    Post (do let doc ← pc; pure (doc ++ (← convAdditionalArgs e r ctx (.inner .args cs a) true)))
      (fun d => Carries d (specAll (.inner .args cs a))) := by
  obtain ⟨_, rp, blocks, hdw, hrpk, hpost⟩ := argsParen_shape hq hp
  obtain ⟨-, -, hqc⟩ := inFrag_inner hq (by decide)
  have hsub : rp :: blocks ⊆ cs := hdw ▸ (List.dropWhile_sublist _).subset
  have hsplit : specAllL cs = (specAllL (cs.takeWhile (·.kind != .rightParen))).app (specAllL (rp :: blocks)) := by
    rw [← specAllL_append, ← hdw, List.takeWhile_append_dropWhile]
  rw [specAll_args, hsplit, specAllL_cons,
    specAll_ignorable rp (inFrag_lex rp (hqc rp (hsub (.head _)))) (isIgnorable_of_kind hrpk rfl), Streams.empty_app]
  refine Post.bind hpc (fun p hpcd => ?_)
  unfold convAdditionalArgs
  simp only [ANode.children, ↓reduceIte, hdw]
  have hfilter : (rp :: blocks).filter (·.kind == .contentBlock) = blocks := by
    rw [List.filter_cons, hrpk]
    exact List.filter_eq_self.mpr (fun b hb => blockShape_kind b (List.all_eq_true.mp hpost b hb))
  rw [hfilter]
  exact Post.bind (Post.map (blocks_frag hr hctx hpost (fun b hb => hqc b (hsub (.tail _ hb)))))
    (fun x hx => Post.pure (hpcd.app hx))

theorem parenArgsUntyped_frag (hq : inFrag (.inner .args cs a) = true) :
    parenArgsUntyped (.inner .args cs a) =
      if hasParenArgs (.inner .args cs a) then cs.takeWhile (·.kind != .rightParen) else [] := by
  unfold parenArgsUntyped
  simp only [ANode.children]
  by_cases hp : hasParenArgs (.inner .args cs a) = true
  · rw [if_pos hp]
    congr 1
    cases cs with
    | nil => rfl
    | cons c0 crest =>
      have hc0 : (c0.kind == .leftParen) = true := hp
      rw [List.dropWhile_cons, bne, hc0]; rfl
  · rw [if_neg hp]
    have hch : listChildrenOK .args cs = true := inFrag_shape hq
    simp only [listChildrenOK, show (cs.head?.map (·.kind == .leftParen)).getD false = false from Bool.eq_false_iff.mpr hp] at hch
    have hall : ∀ x ∈ cs, (x.kind != .leftParen) = true := fun x hx => by
      rw [bne, eq_of_beq (blockShape_kind x (List.all_eq_true.mp hch x hx))]; rfl
    rw [← List.append_nil cs, List.dropWhile_append_of_pos hall]
    rfl

theorem parenArgs_ok (hq : inFrag (.inner .args cs a) = true) :
    ∀ x ∈ parenArgsUntyped (.inner .args cs a), inFrag x = true ∧ (isArg x || isPassable x) = true := by
  rw [parenArgsUntyped_frag hq]
  split
  · exact fun x hx => ⟨(inFrag_inner hq (by decide)).2.2 x ((List.takeWhile_sublist _).subset hx),
      List.all_eq_true.mp (argsParen_shape hq ‹_›).1 x hx⟩
  · exact fun x hx => nomatch hx

theorem args_with (hr : RecOK r Q) (hctx : NM ctx) (hq : inFrag (.inner .args cs a) = true) {pc : M Doc}
    (hpc : Post pc (fun d => Carries d (specAllL (parenArgsUntyped (.inner .args cs a))))) :
    Post (do let doc ← pc; pure (doc ++ (← convAdditionalArgs e r ctx (.inner .args cs a) (hasParenArgs (.inner .args cs a)))))
      (fun d => Carries d (specAll (.inner .args cs a))) := by
  rw [parenArgsUntyped_frag hq] at hpc
  by_cases hp : hasParenArgs (.inner .args cs a) = true
  · rw [if_pos hp] at hpc
    rw [hp]
    exact argsParen_with e r hr ctx hctx cs a hq hp pc hpc
  · -- content blocks only
    have hp' : (cs.head?.map (·.kind == .leftParen)).getD false = false := Bool.eq_false_iff.mpr hp
    obtain ⟨(hch : listChildrenOK .args cs = true), -, hqc⟩ := inFrag_inner hq (by decide)
    simp only [listChildrenOK, hp', Bool.false_eq_true, ↓reduceIte] at hch
    rw [if_neg hp] at hpc
    rw [Bool.eq_false_iff.mpr hp]
    refine Post.bind hpc (fun p hpd => ?_)
    unfold convAdditionalArgs
    simp only [ANode.children, Bool.false_eq_true, ↓reduceIte]
    have hallk : ∀ b ∈ cs, (b.kind == .contentBlock) = true := fun b hb => blockShape_kind b (List.all_eq_true.mp hch b hb)
    have hdw : cs.dropWhile (fun c => c.kind != .contentBlock) = cs := by
      cases cs with
      | nil => rfl
      | cons c rest => rw [List.dropWhile_cons, bne, hallk c List.mem_cons_self]; rfl
    rw [hdw, List.filter_eq_self.mpr hallk, specAll_args]
    refine Post.bind (Q := fun x => Carries x (specAllL cs))
      (Post.map (blocks_frag hr hctx hch hqc)) (fun x hx => Post.pure ?_)
    simpa using hpd.app hx

theorem convParenArgs_frag (hr : RecOK r Q) (hq : inFrag (.inner .args cs a) = true)
    (hp : hasParenArgs (.inner .args cs a) = true) :
    Post (convParenArgs e r ctx (.inner .args cs a)) (fun d => Carries d (specAllL (parenArgsUntyped (.inner .args cs a)))) := by
  rw [parenArgsUntyped_frag hq, if_pos hp]
  obtain ⟨sp0, sp1, sp2, -⟩ := soft_delims e
  unfold convParenArgs
  refine list_frag (NM.withMode _ (by decide)) (argsParen_shape hq hp).1
    (fun x hx => (inFrag_inner hq (by decide)).2.2 x ((List.takeWhile_sublist _).subset hx))
    (fun c x hnm hqx => ?_) (fun _ _ => rfl) ⟨rfl, rfl, rfl⟩ (post := id) (fun _ => rfl) sp2 sp0 sp1
  unfold argItem
  exact guardItem_post (convArg_frag hr hnm hqx)

theorem noParenArgs_frag (hq : inFrag (.inner .args cs a) = true) (hp : ¬hasParenArgs (.inner .args cs a) = true) :
    Post (pure Doc.nil : M Doc) (fun d => Carries d (specAllL (parenArgsUntyped (.inner .args cs a)))) := by
  rw [parenArgsUntyped_frag hq, if_neg hp]
  exact Post.pure Carries.nil

theorem args_frag (hr : RecOK r Q) (hctx : NM ctx) {args : ANode} (hk : args.kind = .args) (hq : inFrag args = true) :
    Post (convArgs e r ctx args) (fun d => Carries d (specAll args)) := by
  obtain ⟨cs, a, rfl⟩ := inFrag_inner_of_kind hq hk rfl (by decide)
  unfold convArgs
  exact Post.ite (fun hp => args_with hr hctx hq (convParenArgs_frag hr hq hp)) (fun hp => args_with hr hctx hq (noParenArgs_frag hq hp))

theorem convParam_ok (hr : RecOK r Q) (c : Ctx) (x : ANode) (hnm : NM c) (hq : inFrag x = true) :
    Post (convParam e r c x) fun o =>
      match o with
      | some body => Carries body (specAll x)
      | none => isParam x = false := by
  unfold convParam
  split
  · exact Post.map (convNamed_frag hr hnm hq ‹_›)
  · exact Post.map (convSpread_frag hr hnm hq ‹_›)
  · rename_i h1 h2
    split
    · exact Post.map (hr.pattern c x hnm ‹_› hq)
    · refine Post.pure ?_
      simp only [isParam, Bool.or_eq_false_iff, beq_eq_false_iff_ne]
      exact ⟨⟨h1, h2⟩, Bool.eq_false_iff.mpr ‹_›⟩

theorem paramList_frag (hr : RecOK r Q) (ctx : Ctx) (hk : k = .params ∨ k = .destructuring)
    (hd : k = .destructuring → a.disabled = false) (hq : inFrag (.inner k cs a) = true) :
    (∀ isUnnamed, Post (convParams e r ctx (.inner k cs a) isUnnamed) (fun d => Carries d (specAll (.inner k cs a)))) ∧
    Post (convDestructuring e r ctx (.inner k cs a)) (fun d => Carries d (specAll (.inner k cs a))) := by
  obtain ⟨hsh, -, hqc⟩ := inFrag_inner hq (by rcases hk with rfl | rfl <;> decide)
  have hch : (cs.all fun x => isParam x || isPassable x) = true := by rcases hk with rfl | rfl <;> exact hsh
  have hspec : specAll (.inner k cs a) = specAllL cs := by
    rcases hk with rfl | rfl
    · exact specAll_never_verbatim cs a rfl
    · exact specAll_enabled cs (hd rfl) rfl
  obtain ⟨sp0, sp1, sp2, -⟩ := soft_delims e
  rw [hspec]
  refine ⟨fun _ => ?_, ?_⟩ <;>
    exact list_frag (NM.withMode _ (by decide)) hch hqc (convParam_ok hr) (fun _ _ => rfl) ⟨rfl, rfl, rfl⟩
      (post := fun ls => ls.alwaysFoldIf _) (fun ls => by unfold LS.alwaysFoldIf; split <;> rfl) sp2 sp0 sp1

theorem array_frag (hr : RecOK r Q) (hq : inFrag (.inner .array cs a) = true) (hd : a.disabled = false) :
    Post (convArray e r ctx (.inner .array cs a)) (fun d => Carries d (specAll (.inner .array cs a))) := by
  obtain ⟨(hch : listChildrenOK .array cs = true), -, hqc⟩ := inFrag_inner hq (by decide)
  simp only [listChildrenOK, Bool.and_eq_true] at hch
  obtain ⟨sp0, sp1, sp2, -⟩ := soft_delims e
  rw [specAll_enabled cs hd rfl]
  unfold convArray
  simp only [ANode.children, hch.1, Bool.not_true, Bool.false_and, ↓reduceIte]
  refine list_frag (NM.withMode _ (by decide)) hch.2 hqc (fun c x hnm hqx => ?_) (fun _ _ => rfl) ⟨rfl, rfl, rfl⟩
    (post := id) (fun _ => rfl) sp2 sp0 sp1
  unfold convArrayItem
  refine Post.ite (fun hs => Post.map (convSpread_frag hr hnm hqx (eq_of_beq hs))) fun hs => ?_
  simp only [Bool.eq_false_iff.mpr hs, Bool.false_or]
  exact guardItem_post (fun hx => hr.expr c x hnm hx hqx)

theorem dict_frag (hr : RecOK r Q) (hq : inFrag (.inner .dict cs a) = true) (hd : a.disabled = false) :
    Post (convDict e r ctx (.inner .dict cs a)) (fun d => Carries d (specAll (.inner .dict cs a))) := by
  obtain ⟨hch, -, hqc⟩ := inFrag_inner hq (by decide)
  obtain ⟨sp0, sp1, sp2, -, -, sp5⟩ := soft_delims e
  rw [specAll_enabled cs hd rfl]
  unfold convDict
  refine list_frag (NM.withMode _ (by decide)) hch hqc (fun c x hnm hqx => ?_) (fun _ _ => rfl) ⟨rfl, rfl, rfl⟩
    (post := id) (fun _ => rfl) sp2 ?_ sp1
  · unfold convDictItem
    split
    · exact Post.map (convNamed_frag hr hnm hqx ‹_›)
    · exact Post.map (convKeyed_frag hr hnm hqx ‹_›)
    · exact Post.map (convSpread_frag hr hnm hqx ‹_›)
    · refine Post.pure ?_
      simp only [Bool.or_eq_false_iff, beq_eq_false_iff_ne]
      exact ⟨⟨‹_›, ‹_›⟩, ‹_›⟩
  · dsimp only
    split
    · exact sp5
    · exact sp0

/-- The nodes `convCodeBlock` lists: the block's children with the statements of its body in place of the body. -/
theorem flattenCode_frag (hch : listChildrenOK .codeBlock cs = true) (hqc : ∀ c ∈ cs, inFrag c = true) :
    specAllL (cs.flatMap fun c => if c.kind == .code then c.children else [c]) = specAllL cs ∧
    ∀ x ∈ cs.flatMap fun c => if c.kind == .code then c.children else [c],
      inFrag x = true ∧ (isExpr x || isPassable x) = true := by
  have hbody : ∀ c ∈ cs, c.kind = .code →
      c.attrs.disabled = false ∧ (c.children.all fun x => isExpr x || isPassable x) = true := by
    intro c hc hk
    have := List.all_eq_true.mp hch c hc
    rw [if_pos (by rw [hk]; rfl)] at this
    cases c with
    | leaf _ _ _ => exact ⟨by simpa [ANode.attrs] using (Bool.and_eq_true_iff.mp this).1, rfl⟩
    | inner _ _ _ => simpa [ANode.attrs, ANode.children] using this
  refine ⟨specAllL_flatMap_children (·.kind == .code) cs fun c hc hk =>
    specAll_body (hqc c hc) (.inr (.inr ⟨beq_iff_eq.mp hk, (hbody c hc (beq_iff_eq.mp hk)).1⟩)), fun x hx => ?_⟩
  obtain ⟨c, hc, hxc⟩ := List.mem_flatMap.mp hx
  split at hxc
  · rename_i hk
    exact ⟨inFrag_children_mem (hqc c hc) (by rw [eq_of_beq hk]; decide) x hxc,
      List.all_eq_true.mp (hbody c hc (eq_of_beq hk)).2 x hxc⟩
  · rename_i hk
    rw [List.mem_singleton.mp hxc]
    have := List.all_eq_true.mp hch c hc
    rw [if_neg hk] at this
    exact ⟨hqc c hc, Bool.or_eq_true_iff.mpr (Or.inr this)⟩

theorem codeBlock_frag (hr : RecOK r Q) (hq : inFrag (.inner .codeBlock cs a) = true) (hd : a.disabled = false) :
    Post (convCodeBlock e r ctx (.inner .codeBlock cs a)) (fun d => Carries d (specAll (.inner .codeBlock cs a))) := by
  obtain ⟨hsh, -, hqc⟩ := inFrag_inner hq (by decide)
  unfold convCodeBlock
  by_cases hbd : codeBodyDisabled cs = true
  · -- the body is marked: the whole block verbatim
    unfold codeBodyDisabled at hbd
    simp only [ANode.children, hbd, ↓reduceIte]
    have hv : isVerbatimNode .codeBlock cs a = true := by unfold isVerbatimNode; simp [hbd]
    exact Post.pure ((Carries.mkText e.wd .verbatim _).congr (specAll_verbatim _ cs a hv).symm)
  · have hbody : ((cs.find? (·.kind == .code)).map (·.attrs.disabled)).getD false = false := Bool.eq_false_iff.mpr hbd
    obtain ⟨hspec, hnodes⟩ := flattenCode_frag ((Bool.or_eq_true_iff.mp hsh).resolve_right hbd) hqc
    obtain ⟨-, -, -, sp3, sp4, -⟩ := soft_delims e
    have hv : isVerbatimNode .codeBlock cs a = false := by unfold isVerbatimNode; rw [hd, hbody]; rfl
    rw [specAll_inner _ cs a hv (by decide), ← hspec]
    simp only [ANode.children, hbody, Bool.false_eq_true, ↓reduceIte]
    refine list_frag (NM.withMode _ (by decide)) (List.all_eq_true.mpr fun x hx => (hnodes x hx).2) (fun x hx => (hnodes x hx).1)
      (fun c x hnm hqx => ?_) (fun _ _ => rfl) ⟨rfl, rfl, rfl⟩ (post := id) (fun _ => rfl) Carries.nil sp3 sp4
    unfold codeBlockItem
    exact guardItem_post (fun hx => hr.expr c x hnm hx hqx)

theorem equation_frag (hrM : RecOKM r QM) (hq : inFrag (.inner .equation cs a) = true) (hd : a.disabled = false) :
    Post (convEquation e r ctx (.inner .equation cs a)) (fun d => Carries d (specAll (.inner .equation cs a))) := by
  have hqe := inFrag_equation hq
  exact convEquation_carries e r hrM ctx cs a hd (inFrag_shape hq) (inFragEq_lex cs hqe)
    (fun c hc hk => ⟨specAll_math_nil hk (inFragEq_math hqe hc hk), inFragEq_math hqe hc hk⟩)

theorem strongEmph_frag (hr : RecOK r Q) (hctx : NM ctx) {kd : Kind} {s : String}
    (hq : inFrag (.inner k cs a) = true) (hd : a.disabled = false) (hk : (k == .equation || k == .codeBlock || k == .raw) = false)
    (hkinds : (cs.map (·.kind) == [kd, .markup, kd]) = true) (hf : kd.fixedTok = some s) :
    Post (convStrongEmph e r ctx (.inner k cs a) s) (fun d => Carries d (specAll (.inner k cs a))) := by
  rw [Bool.or_eq_false_iff, Bool.or_eq_false_iff, beq_eq_false_iff_ne] at hk
  rw [specAll_enabled _ hd (Bool.or_eq_false_iff.mpr ⟨hk.1.2, hk.2⟩)]
  exact wrapped_frag hr hctx .strong (f := id) id hq hk.1.1 (eq_of_beq hkinds) hf hf

theorem contentBlock_frag (hr : RecOK r Q) (hctx : NM ctx) (hq : inFrag (.inner .contentBlock cs a) = true) (hd : a.disabled = false) :
    Post (convContentBlock e r ctx (.inner .contentBlock cs a)) (fun d => Carries d (specAll (.inner .contentBlock cs a))) :=
  block_frag hr hctx (Bool.and_eq_true_iff.mpr ⟨inFrag_shape hq, by rw [hd]; rfl⟩) hq

theorem listItem_frag (hr : RecOK r Q) (hctx : NM ctx) (hq : inFrag (.inner k cs a) = true) (hd : a.disabled = false)
    (hk : (k == .equation || k == .codeBlock || k == .raw) = false) :
    Post (convListItemLike e r ctx (.inner k cs a)) (fun d => Carries d (specAll (.inner k cs a))) := by
  rw [Bool.or_eq_false_iff, Bool.or_eq_false_iff, beq_eq_false_iff_ne] at hk
  obtain ⟨-, hlex, hqc⟩ := inFrag_inner hq hk.1.1
  unfold convListItemLike
  refine Post.bind ?_ (fun d hd => Post.pure (Carries.nstTab hd))
  rw [specAll_enabled cs hd (Bool.or_eq_false_iff.mpr ⟨hk.1.2, hk.2⟩)]
  exact flowM_specAll (listItemProducer_ok e r hr) hctx cs hlex
    (fun c hc => ⟨⟨tokensAreLeavesL_mem hlex hc, hqc c hc⟩, fun hk he => by
      rw [specAll_body (hqc c hc) (.inl hk), List.isEmpty_iff.mp he]; rfl⟩) false

theorem ref_frag (hr : RecOK r Q) (hctx : NM ctx) (hq : inFrag (.inner .ref cs a) = true) (hd : a.disabled = false) :
    Post (convRef e r ctx (.inner .ref cs a)) (fun d => Carries d (specAll (.inner .ref cs a))) := by
  obtain ⟨(hch : listChildrenOK .ref cs = true), -, hqc⟩ := inFrag_inner hq (by decide)
  rw [specAll_enabled cs hd rfl]
  unfold convRef firstWhere lastWhere
  simp only [listChildrenOK] at hch
  split at hch
  · -- `@target`
    rename_i tm am
    simp only [ANode.children, List.find?, ANode.kind, beq_self_eq_true, childOr, M.pure_bind, ANode.text, List.reverse_cons,
      List.reverse_nil, List.nil_append, show (Kind.refMarker == Kind.contentBlock) = false from rfl]
    refine Post.pure ?_
    simpa [specAllL_cons] using refMarker_carries e tm am hch
  · -- `@target[supplement]`
    rename_i tm am b
    simp only [Bool.and_eq_true] at hch
    have hbk := blockShape_kind b hch.2
    have hf1 : ([ANode.leaf .refMarker tm am, b] : List ANode).find? (fun x => x.kind == .refMarker) = some (.leaf .refMarker tm am) := by
      rw [List.find?_cons]; rfl
    have hf2 : ([ANode.leaf .refMarker tm am, b] : List ANode).reverse.find? (fun x => x.kind == .contentBlock) = some b := by
      show ([b, ANode.leaf .refMarker tm am] : List ANode).find? _ = _
      rw [List.find?_cons, hbk]
    simp only [ANode.children, hf1, hf2, childOr, M.pure_bind, ANode.text]
    refine Post.bind (block_frag hr hctx hch.2 (hqc b (.tail _ (.head _)))) (fun d hd => Post.pure ?_)
    simpa [specAllL_cons] using (refMarker_carries e tm am hch.1).app hd
  · cases hch

theorem loop_frag (s : String) (hsh : loopShapeB cs = true) (hd : a.disabled = false) (hk : (k == .codeBlock || k == .raw) = false) :
    Post (e.synNode (.inner k cs a) s) (fun d => Carries d (specAll (.inner k cs a))) := by
  refine synNode_carries s (fun ht => ?_)
  rw [specAll_enabled cs hd hk]
  unfold loopShapeB at hsh
  split at hsh
  · rename_i kk tt aa
    have hplain : kk.isPlainToken = true := by
      rcases Bool.or_eq_true_iff.mp hsh with h | h <;> (rw [eq_of_beq h]; rfl)
    rw [specAllL_cons, specAllL_nil, Streams.app_empty, specAll_plain_leaf kk tt aa hplain, tagS_syn_eq_tok, ← ht]
    simp [ANode.intoText, ANode.intoTextL]
  · cases hsh

theorem moduleImport_frag (hr : RecOK r Q) (hctx : NM ctx) (hq : inFrag (.inner .moduleImport cs a) = true) (hd : a.disabled = false) :
    Post (convImport e r ctx (.inner .moduleImport cs a)) (fun d => Carries d (specAll (.inner .moduleImport cs a))) := by
  obtain ⟨(hsh : importShapeB cs = true), hlex, hqc⟩ := inFrag_inner hq (by decide)
  simp only [importShapeB, Bool.and_eq_true, Bool.or_eq_true, Bool.not_eq_true'] at hsh
  exact convImport_carries_of_sorted e r hr impQ_frag ctx hctx cs a hd hlex hqc (fun c hc hk => specAll_body (hqc c hc) (.inr (.inl hk)))
    (importItems_ok (inFrag_children hq (by decide)) hsh.1) hsh.2

theorem closureProducer_ok (hr : RecOK r Q) (isNamed : Bool) : ProducerS (closureProducer e r isNamed) specAll (ChildOK Q) := by
  intro la c child hnm hok
  unfold closureProducer
  refine Post.ite (fun h => ?_) fun _ => Post.ite (fun h => ?_) fun _ => Post.ite (fun h => ?_) fun _ =>
    Post.ite (fun h => ?_) fun _ => Post.ite (fun h => ?_) fun _ => space_or_reject hok.1
  · exact Post.map (synLeaf_carries e child "=" hok.1 (by rw [eq_of_beq h]; rfl))
  · exact Post.map (synLeaf_carries e child "=>" hok.1 (by rw [eq_of_beq h]; rfl))
  · exact Post.pure (ident_carries e hok.1 (eq_of_beq (Bool.and_eq_true_iff.mp h).2))
  · obtain ⟨cs', a', rfl⟩ := inFrag_inner_of_kind hok.2 (eq_of_beq (Bool.and_eq_true_iff.mp h).2) rfl (by decide)
    exact Post.map ((paramList_frag hr c (Or.inl rfl) (fun h => by cases h) hok.2).1 _)
  · exact Post.map (exprWithOptionalParen_frag hr hnm (Bool.and_eq_true_iff.mp h).2 hok.2)

theorem forProducer_ok (hr : RecOK r Q) : ProducerS (forProducer e r) specAll (ChildOK Q) := by
  intro la c child hnm hok
  unfold forProducer
  refine Post.ite (fun h => ?_) fun _ => Post.ite (fun h => ?_) fun _ => Post.ite (fun h => ?_) fun _ => space_or_reject hok.1
  · exact Post.map (hr.pattern c child hnm (Bool.and_eq_true_iff.mp h).2 hok.2)
  · exact Post.map (exprWithOptionalParen_frag hr hnm (Bool.and_eq_true_iff.mp h).2 hok.2)
  · exact Post.map (hr.expr c child hnm (Bool.and_eq_true_iff.mp h).2 hok.2)

theorem setProducer_ok (hr : RecOK r Q) : ProducerS (setProducer e r) specAll (ChildOK Q) := by
  intro st c child hnm hok
  unfold setProducer
  refine Post.ite (fun h => ?_) fun _ => Post.ite (fun h => ?_) fun _ => space_or_reject hok.1
  · exact Post.map (hr.expr c child hnm h hok.2)
  · exact Post.map (args_frag hr hnm (eq_of_beq h) hok.2)

variable {acs : List ANode} {aa : Attrs} {callee : ANode}

theorem convTable_frag (hr : RecOK r Q) {cols : Nat} (hqa : inFrag (.inner .args acs aa) = true)
    (hft : isFormatableTable (.inner .funcCall [callee, .inner .args acs aa] a) = some cols) :
    Post (convTable e r ctx (.inner .funcCall [callee, .inner .args acs aa] a) cols)
      (fun d => Carries d (specAllL (parenArgsUntyped (.inner .args acs aa)))) := by
  -- what `is_formatable` accepted: no comment among the arguments, no positional argument before a named one
  have hfm : isFormatable (.inner .funcCall [callee, .inner .args acs aa] a) = true := by
    unfold isFormatableTable at hft
    split at hft
    · exact (Bool.and_eq_true_iff.mp ‹_›).2
    · cases hft
  unfold isFormatable at hfm
  rw [lastWhere_call_args rfl] at hfm
  simp only [ANode.children] at hfm
  cases hnc : acs.any (fun c => isCommentKind c.kind)
  rotate_left
  · simp [hnc] at hfm
  simp only [hnc, Bool.false_eq_true, ↓reduceIte] at hfm
  by_cases hpar : hasParenArgs (.inner .args acs aa) = true
  rotate_left
  · -- no parenthesised part: nothing to reflow
    rw [parenArgsUntyped_frag hqa, if_neg hpar] at hfm
    cases hfm
  rw [parenArgsUntyped_frag hqa, if_pos hpar] at hfm ⊢
  cases hform : formatableGo ((acs.takeWhile (·.kind != .rightParen)).filter isArg) false
  · rw [hform] at hfm
    cases hfm
  obtain ⟨hPn, rp, blocks, hdw, hrpk, hpost⟩ := argsParen_shape hqa hpar
  obtain ⟨-, hlex, hqc⟩ := inFrag_inner hqa (by decide)
  refine convTable_carries e r ctx (fun _ => convArg_frag hr (NM.withMode _ (by decide)))
    (fun _ => convNamed_frag hr (NM.withMode _ (by decide)))
    _ (.inner .args acs aa) (lastWhere_call_args rfl) cols hlex hqc hnc hPn (fun x hx => ?_) hform
  -- after the parenthesised part: `)` and content blocks
  rcases List.mem_cons.mp (hdw ▸ hx) with rfl | hx'
  · rw [hrpk]; rfl
  · rw [eq_of_beq (blockShape_kind x (List.all_eq_true.mp hpost x hx'))]; rfl

theorem funcCallArgs_frag (hr : RecOK r Q) (hctx : NM ctx) {args : ANode} (hak : args.kind = .args) (hqa : inFrag args = true) :
    Post (convFuncCallArgs e r ctx (.inner .funcCall [callee, args] a) args) (fun d => Carries d (specAll args)) := by
  obtain ⟨acs, aa, rfl⟩ := inFrag_inner_of_kind hqa hak rfl (by decide)
  unfold convFuncCallArgs
  -- outside math, a call that is no table lays out its arguments as `convArgs` does
  refine Post.ite (fun hm => absurd (eq_of_beq hm) hctx) fun _ => Post.ite (fun _ => ?_) fun _ => args_frag hr hctx rfl hqa
  split
  · exact args_with hr hctx hqa (convTable_frag hr hqa ‹_›)
  · refine Post.ite (fun _ => ?_) (fun hp => args_with hr hctx hqa (noParenArgs_frag hqa hp))
    exact args_with hr hctx hqa (convParenArgsAsList_carries e r ctx
      (fun _ => convArg_frag hr (NM.withMode _ (by decide))) _
      (fun x hx => ⟨inFrag_lex x (parenArgs_ok hqa x hx).1, parenArgs_ok hqa x hx⟩))

theorem funcCall_frag (hr : RecOK r Q) (hctx : NM ctx) (hq : inFrag (.inner .funcCall cs a) = true) (hd : a.disabled = false) :
    Post (convFuncCall e r ctx (.inner .funcCall cs a)) (fun d => Carries d (specAll (.inner .funcCall cs a))) := by
  obtain ⟨hsh, -, hqc⟩ := inFrag_inner hq (by decide)
  obtain ⟨callee, args, rfl, hhead, hak⟩ := funcCall_shape hsh
  have hcx : isExpr callee = true := chainHeadOK_expr hhead
  unfold convFuncCall
  simp only [firstWhere_cons hcx, lastWhere_call_args hak, childOr, M.pure_bind]
  have tail : Post (do
        let d1 ← r.expr ctx callee
        let d2 ← convFuncCallArgs e r ctx (ANode.inner Kind.funcCall [callee, args] a) args
        pure (d1 ++ d2)) (fun d => Carries d (specAll (ANode.inner Kind.funcCall [callee, args] a))) := by
    rw [specAll_enabled _ hd rfl]
    refine Post.bind (hr.expr ctx callee hctx hcx (hqc _ (.head _))) (fun dc hdc => ?_)
    refine Post.bind (funcCallArgs_frag hr hctx hak (hqc _ (.tail _ (.head _)))) (fun da hda => Post.pure ?_)
    simpa [specAllL_cons] using hdc.app hda
  refine Post.ite (fun _ => ?_) (fun _ => tail)
  refine Post.bind (tryDotChain_post e r hr dotQ_frag ctx hctx (fun _ hc _ => args_frag hr hc)
      _ rfl (inFrag_lex _ hq) hq hd) (fun o ho => ?_)
  cases o with
  | some d => exact Post.pure ho
  | none => exact tail

/-- The node's kind decides the converter, as in `convExprImpl`; `fragShape` lists the kinds of the fragment, each
with what `inFrag` demands of it. -/
theorem convExpr_frag (hr : RecOK r Q) (hrM : RecOKM r QM) (ctx : Ctx) (hctx : NM ctx) (n : ANode) (hx : isExpr n = true)
    (hq : inFrag n = true) : Post (convExpr e r ctx n) (fun d => Carries d (specAll n)) := by
  unfold convExpr
  refine Post.bind_any fun _ => ?_
  cases n with
  | leaf k t a => exact leaf_expr_frag ctx k t a hx hq
  | inner k cs a =>
    have hkx : k.isExpr = true := hx
    refine Post.ite (fun hd => Post.pure (verb_inner_carries e hd (.inl hkx))) (fun hnd => ?_)
    have hd : a.disabled = false := Bool.eq_false_iff.mpr hnd
    have hs := inFrag_shape hq
    unfold fragShape at hs
    split at hs
    rotate_right
    · cases hs
    · exact equation_frag hrM hq hd
    · exact convBinary_carries e r hr binQ_frag ctx hctx cs a hq hd
    · exact convFieldAccess_carries e r hr dotQ_frag ctx hctx (fun _ hc _ => args_frag hr hc) cs a hq hd
    · exact moduleImport_frag hr hctx hq hd
    · exact loop_frag "break" hs hd rfl
    · exact loop_frag "continue" hs hd rfl
    · exact codeBlock_frag hr hq hd
    · exact array_frag hr hq hd
    · exact dict_frag hr hq hd
    · exact hr.paren ctx _ hctx rfl hd hq
    · exact contentBlock_frag hr hctx hq hd
    · exact strongEmph_frag hr hctx hq hd rfl hs rfl
    · exact strongEmph_frag hr hctx hq hd rfl hs rfl
    · exact Post.pure (convRaw_carries e cs a hd hs)
    · exact ref_frag hr hctx hq hd
    · exact funcCall_frag hr hctx hq hd
    · exact flow_frag hctx hq hd rfl () (unaryProducer_ok e r hr _)
    · exact flow_frag hctx hq hd rfl () (letProducer_ok e r hr)
    · exact flow_frag hctx hq hd rfl () (letProducer_ok e r hr)
    · exact flow_frag hctx hq hd rfl () (showProducer_ok e r hr)
    · exact flow_frag hctx hq hd rfl () (exprFlowProducer_ok r hr _)
    · exact flow_frag hctx hq hd rfl () (exprFlowProducer_ok r hr _)
    · exact flow_frag hctx hq hd rfl () (exprFlowProducer_ok r hr _)
    · exact flow_frag hctx hq hd rfl () (exprFlowProducer_ok r hr _)
    · exact flow_frag hctx hq hd rfl () (exprFlowProducer_ok r hr _)
    · exact flow_frag hctx hq hd rfl () (headingProducer_ok e r hr)
    · exact listItem_frag hr hctx hq hd rfl
    · exact listItem_frag hr hctx hq hd rfl
    · exact listItem_frag hr hctx hq hd rfl
    · exact flow_frag hctx hq hd rfl () (setProducer_ok hr)
    · exact flow_frag hctx hq hd rfl _ (closureProducer_ok hr _)
    · exact flow_frag hctx hq hd rfl 0 (forProducer_ok hr)
    -- the remaining kinds of the fragment are no expressions
    all_goals cases hkx

end Typstyle
