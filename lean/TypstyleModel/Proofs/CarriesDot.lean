import TypstyleModel.Proofs.CarriesBinary
/-! Field access and method-call chains (`convert_dot_chain`, `convert_field_access_plain`,
`try_convert_dot_chain_plain`). -/
namespace Typstyle
open Twin

/-- What the covered fragment must guarantee of field accesses and calls for the dot chain. -/
structure DotQ (Q : ANode → Prop) : Prop where
  leaf : ∀ k t a, Q (.leaf k t a) → k ≠ .fieldAccess ∧ k ≠ .funcCall
  access : ∀ cs a, Q (.inner .fieldAccess cs a) → a.disabled = false →
    dotChildrenOK cs = true ∧ ANode.tokensAreLeavesL cs = true ∧ ∀ c ∈ cs, Q c
  call : ∀ cs a, Q (.inner .funcCall cs a) → a.disabled = false →
    ∃ callee args, cs = [callee, args] ∧ chainHeadOK callee = true ∧ args.kind = .args ∧
      ANode.tokensAreLeaves callee = true ∧ Q callee ∧ Q args

theorem faRest_cons {p : Nat} {c : ANode} {cs : List ANode} (h : faRest p (c :: cs) = true) :
    ((isCommentKind c.kind || c.kind == .space) = true ∧ faRest p cs = true) ∨
    (c.kind = .dot ∧ p = 0 ∧ faRest 1 cs = true) ∨ (c.kind = .ident ∧ p = 1 ∧ faRest 2 cs = true) := by
  simp only [faRest] at h
  split at h
  · rename_i hk
    exact .inl ⟨by rwa [Bool.or_comm], h⟩
  · split at h
    · rename_i hk
      simp only [Bool.and_eq_true, beq_iff_eq] at h hk
      exact .inr (.inl ⟨hk, h.1, h.2⟩)
    · simp only [Bool.and_eq_true, beq_iff_eq] at h
      exact .inr (.inr ⟨h.1.1, h.1.2, h.2⟩)

theorem faRest_mem {p : Nat} {l : List ANode} (h : faRest p l = true) {x : ANode} (hx : x ∈ l) :
    isCommentKind x.kind = true ∨ x.kind = .dot ∨ isExpr x = true ∨ x.kind = .space := by
  induction l generalizing p with
  | nil => cases hx
  | cons y ys ih =>
    rcases List.mem_cons.mp hx with rfl | hx'
    · rcases faRest_cons h with ⟨ht, _⟩ | ⟨hk, _⟩ | ⟨hk, _⟩
      · exact ((Bool.or_eq_true _ _).mp ht).imp_right fun hs => .inr (.inr (beq_iff_eq.mp hs))
      · exact .inr (.inl hk)
      · exact .inr (.inr (.inl (by rw [isExpr, hk]; rfl)))
    · rcases faRest_cons h with ⟨_, h'⟩ | ⟨_, _, h'⟩ | ⟨_, _, h'⟩ <;> exact ih h' hx'

theorem chainHeadOK_expr {t : ANode} (h : chainHeadOK t = true) : isExpr t = true :=
  (Bool.and_eq_true_iff.mp h).1

variable {Q : ANode → Prop} {e : Env} {r : Rec} {ctx : Ctx}

/-- A node a dot chain may go on with. -/
abbrev DotHead (Q : ANode → Prop) : ANode → Prop := ChainNode Q fun k => k = .fieldAccess ∨ k = .funcCall

theorem DotHead.of_ok {t : ANode} (h : chainHeadOK t = true) (hlex : ANode.tokensAreLeaves t = true) (hq : Q t) : DotHead Q t := by
  simp only [chainHeadOK, Bool.and_eq_true, Bool.not_eq_true', Bool.and_eq_false_iff, Bool.or_eq_false_iff, beq_eq_false_iff_ne] at h
  exact ⟨h.1, hlex, hq, fun hk => h.2.resolve_left fun h2 => hk.elim h2.1 h2.2⟩

theorem DotQ.access_shape (hQ : DotQ Q) {n : ANode} (hq : Q n) (hk : n.kind = .fieldAccess) (hd : n.attrs.disabled = false) :
    ∃ t rest a, n = .inner .fieldAccess (t :: rest) a ∧ DotHead Q t ∧ firstWhere n isExpr = some t ∧ faRest 0 rest = true ∧
      ANode.tokensAreLeavesL rest = true ∧ specAll n = (specAll t).app (specAllL rest) := by
  cases n with
  | leaf k t a => exact absurd hk (hQ.leaf k t a hq).1
  | inner k cs a =>
    cases (hk : k = .fieldAccess)
    obtain ⟨hch, hlexL, hqc⟩ := hQ.access cs a hq hd
    cases cs with
    | nil => simp [dotChildrenOK] at hch
    | cons t rest =>
      simp only [dotChildrenOK, Bool.and_eq_true] at hch
      simp only [ANode.tokensAreLeavesL, Bool.and_eq_true] at hlexL
      have ht := DotHead.of_ok hch.1 hlexL.1 (hqc t List.mem_cons_self)
      exact ⟨t, rest, a, rfl, ht, firstWhere_cons ht.expr, hch.2, hlexL.2,
        by rw [specAll_enabled (k := .fieldAccess) _ (show a.disabled = false from hd) rfl, specAllL_cons]⟩

theorem DotQ.call_shape (hQ : DotQ Q) {n : ANode} (hq : Q n) (hk : n.kind = .funcCall) (hd : n.attrs.disabled = false) :
    ∃ callee args a, n = .inner .funcCall [callee, args] a ∧ DotHead Q callee ∧ firstWhere n isExpr = some callee ∧
      args.kind = .args ∧ Q args ∧ lastWhere n (fun x => x.kind == .args) = some args ∧
      specAll n = (specAll callee).app (specAll args) := by
  cases n with
  | leaf k t a => exact absurd hk (hQ.leaf k t a hq).2
  | inner k cs a =>
    cases (hk : k = .funcCall)
    obtain ⟨callee, args, rfl, hhead, hak, hlexc, hqcal, hqargs⟩ := hQ.call cs a hq hd
    have ht := DotHead.of_ok hhead hlexc hqcal
    refine ⟨callee, args, a, rfl, ht, firstWhere_cons ht.expr, hak, hqargs, lastWhere_call_args hak, ?_⟩
    rw [specAll_enabled (k := .funcCall) _ (show a.disabled = false from hd) rfl, specAllL_cons, specAllL_cons, specAllL_nil,
      Streams.app_empty]

theorem dotOpConv_post {c : ANode} (hlex : ANode.tokensAreLeaves c = true) {st : Bool} :
    Post (dotOp e c >>= fun x => (pure (st, x) : M (Bool × Option Doc))) (fun p => p.1 = st ∧
      (∀ d, p.2 = some d → Carries d (specAll c)) ∧ p.2.isSome = (c.kind == .dot)) := by
  refine Post.bind (Q := fun o => (∀ d, o = some d → Carries d (specAll c)) ∧ o.isSome = (c.kind == .dot))
    (Post.ite (fun hk => Post.map ?_) fun hk => Post.pure ⟨nofun, (Bool.eq_false_iff.mpr hk).symm⟩) fun _ ho => Post.pure ⟨rfl, ho⟩
  exact (synLeaf_carries e c "." hlex (plain_of_beq hk dot_plain)).mono fun d hd => ⟨fun _ h => Option.some.inj h ▸ hd, hk.symm⟩

theorem dotOp_expr {c : ANode} (hx : isExpr c = true) : dotOp e c = pure none := by
  simp [dotOp, Kind.ne_of_class (p := Kind.isExpr) hx (k0 := .dot) rfl]

theorem dotRestStep {acc : CS × Bool × Bool} {sp : Streams} {c : ANode} {rest : List ANode} {p : Nat}
    (h : ItemsCarry acc.1.items sp) (hok : faRest p (c :: rest) = true) (hso : acc.2.2 = (p != 0))
    (hlex : ANode.tokensAreLeaves c = true) :
    Post (CS.childStepM e ctx (fun st c => do pure (st, ← dotOp e c)) (dotRhs e) acc c)
      (fun r' => ItemsCarry r'.1.items (sp.app (specAll c)) ∧ r'.1.opState = acc.1.opState ∧
        ∃ p', faRest p' rest = true ∧ r'.2.2 = (p' != 0)) := by
  obtain ⟨cs, ca, so⟩ := acc
  refine (childStepM_carries (s := specAll c) h (dotOpConv_post hlex) (fun _ d hR => hR.2.1 d rfl) (fun _ hR => ?_)).mono ?_
  · have hnd : (c.kind == .dot) = false := hR.2.2.symm
    rcases faRest_cons hok with ⟨ht, _⟩ | ⟨hk, _⟩ | ⟨hk, rfl, _⟩
    · exact .trivia hlex ht
    · rw [hk] at hnd; cases hnd
    · refine .rhs (by rw [hk]; rfl) (by rw [hk]; decide) hso ?_
      rw [dotRhs, hk]
      exact Post.pure (ident_carries e hlex hk)
  · rintro r' ⟨hI, q, hR, ho, hso'⟩
    refine ⟨hI, by rw [ho, hR.1], ?_⟩
    rw [hso', hR.2.2, show so = (p != 0) from hso]
    rcases faRest_cons hok with ⟨ht, h'⟩ | ⟨hk, rfl, h'⟩ | ⟨-, rfl, h'⟩
    · exact ⟨p, h', by rw [Kind.beq_false_of_class (p := fun k => isCommentKind k || k == .space) ht rfl, Bool.or_false]⟩
    · exact ⟨1, h', by rw [hk]; rfl⟩
    · exact ⟨2, h', rfl⟩

theorem dotRest_fold (rest : List ANode) (hok : faRest 0 rest = true) (hlex : ANode.tokensAreLeavesL rest = true)
    (acc : CS × Bool × Bool) (sp : Streams) (h : ItemsCarry acc.1.items sp) (hst : acc.1.opState = false) (hso : acc.2.2 = false) :
    Post (rest.foldlM (CS.childStepM e ctx (fun st c => do pure (st, ← dotOp e c)) (dotRhs e)) acc)
      (fun r' => ItemsCarry r'.1.items (sp.app (specAllL rest)) ∧ r'.1.opState = false) := by
  refine (Post.foldlM_sem specAllL_nil specAllL_cons (I := fun acc s rest => ItemsCarry acc.1.items s ∧ acc.1.opState = false ∧
    ANode.tokensAreLeavesL rest = true ∧ ∃ p, faRest p rest = true ∧ acc.2.2 = (p != 0)) ?_ rest acc sp
    ⟨h, hst, hlex, 0, hok, hso⟩).mono (fun r' hr' => ⟨hr'.1, hr'.2.1⟩)
  rintro acc s c rest ⟨hI, hst, hlex, p, hok, hso⟩
  simp only [ANode.tokensAreLeavesL, Bool.and_eq_true] at hlex
  exact (dotRestStep hI hok hso hlex.1).mono (fun r' hr' => ⟨hr'.1, hr'.2.1.trans hst, hlex.2, hr'.2.2⟩)

theorem dotFallback_call {n args : ANode} (hk : n.kind = .funcCall) (hl : lastWhere n (fun x => x.kind == .args) = some args) :
    dotFallback e r ctx n = (do pure (some (← convArgs e r ctx args))) := by
  simp [dotFallback, hk, hl, childOr]

theorem specAll_dot_node (c : ANode) (h : ANode.tokensAreLeaves c = true) (hk : c.kind = .dot) :
    specAll c = tagS .syn "." :=
  (specAll_fixedTok c h (by rw [hk]; rfl)).trans (tagS_syn_eq_tok ".").symm

/-- Without comments, from phase `p` on: the children after the target prescribe what is left of `.` and
the field name, and the last identifier among them is that name. -/
theorem faRest_spec {p : Nat} {rest : List ANode} (h : faRest p rest = true) (hlex : ANode.tokensAreLeavesL rest = true)
    (hnc : rest.any (fun c => isCommentKind c.kind) = false) :
    match (generalizing := false) p with
    | 0 => ∃ f, rest.reverse.find? (fun c => c.kind == .ident) = some f ∧ specAllL rest = (tagS .syn ".").app (tagS .lit f.text)
    | 1 => ∃ f, rest.reverse.find? (fun c => c.kind == .ident) = some f ∧ specAllL rest = tagS .lit f.text
    | _ => rest.reverse.find? (fun c => c.kind == .ident) = none ∧ specAllL rest = {} := by
  induction rest generalizing p with
  | nil => cases (by simpa [faRest] using h : p = 2); simp
  | cons c cs ih =>
    simp only [ANode.tokensAreLeavesL, Bool.and_eq_true] at hlex
    simp only [List.any_cons, Bool.or_eq_false_iff] at hnc
    rw [List.reverse_cons, List.find?_append, specAllL_cons]
    rcases faRest_cons h with ⟨ht, h'⟩ | ⟨hk, rfl, h'⟩ | ⟨hk, rfl, h'⟩
    · have hsp : c.kind = .space := by simpa [hnc.1] using ht
      rw [specAll_space c hlex.1 hsp, Streams.empty_app, show [c].find? (fun c => c.kind == .ident) = none by simp [hsp], Option.or_none]
      exact ih h' hlex.2 hnc.2
    · obtain ⟨f, hf, hs⟩ := ih h' hlex.2 hnc.2
      exact ⟨f, by rw [hf]; rfl, by rw [specAll_dot_node c hlex.1 hk, hs]⟩
    · have h2 := ih h' hlex.2 hnc.2
      exact ⟨c, by simp [h2.1, hk], by rw [h2.2, Streams.app_empty, specAll_ident_node c hlex.1 hk]⟩

theorem access_field {t : ANode} {rest : List ANode} {a : Attrs} (hrest : faRest 0 rest = true)
    (hlex : ANode.tokensAreLeavesL rest = true) (hcm : hasCommentChildren (.inner .fieldAccess (t :: rest) a) = false) :
    ∃ f, lastWhere (.inner .fieldAccess (t :: rest) a) (fun c => c.kind == .ident) = some f ∧
      specAllL rest = (tagS .syn ".").app (tagS .lit f.text) := by
  have hnc : (t :: rest).any (fun c => isCommentKind c.kind) = false := hcm
  simp only [List.any_cons, Bool.or_eq_false_iff] at hnc
  obtain ⟨f, hf, hs⟩ := faRest_spec (p := 0) hrest hlex hnc.2
  refine ⟨f, ?_, hs⟩
  show (t :: rest).reverse.find? _ = _
  rw [List.reverse_cons, List.find?_append, hf]; rfl

/-- A chain of field accesses down to an identifier, without comments: the plain layout
`id.f₁.f₂…` carries exactly the expression. -/
theorem plainChain_of_isChain (e : Env) (hQ : DotQ Q) {t : ANode} {chain : List ANode}
    (hc : IsChain (fun n => n.kind == .fieldAccess || n.kind == .funcCall) t chain) :
    ANode.tokensAreLeaves t = true → Q t → (chain.filter (·.kind == .funcCall)).length = 0 →
      chain.any hasCommentChildren = false → (t.kind = .fieldAccess → t.attrs.disabled = false) →
      ∀ id, chain.getLast? = some id → id.kind = .ident →
      Carries (chain.reverse.foldl
        (fun doc c => if c.kind == .fieldAccess then doc ++ (e.syn "." ++ e.lit (fieldOf c)) else doc) (e.lit id.text)) (specAll t) := by
  induction hc with
  | @last t _ =>
    intro hlex _ _ _ _ id hid hidk
    cases (Option.some.inj hid : t = id)
    simp only [List.reverse_cons, List.reverse_nil, List.nil_append, List.foldl_cons, List.foldl_nil, hidk,
      show (Kind.ident == Kind.fieldAccess) = false from rfl, Bool.false_eq_true, ↓reduceIte]
    exact ident_carries e hlex hidk
  | @cons t tg chain hcond hfind htail ih =>
    intro hlex hq hcalls hcm hdis id hid hidk
    have hnf : (t.kind == .funcCall) = false := by
      cases hkf : (t.kind == .funcCall) with
      | false => rfl
      | true => rw [List.filter_cons, hkf] at hcalls; simp at hcalls
    have hfa : t.kind = .fieldAccess := by simpa [hnf] using hcond
    obtain ⟨tg', rest, a, rfl, ht, hfw, hrest, hlexr, hspec⟩ := hQ.access_shape hq hfa (hdis hfa)
    cases hfw.symm.trans hfind
    obtain ⟨xs, rfl⟩ := htail.eq_cons
    rw [List.getLast?_cons_cons] at hid
    rw [List.filter_cons, hnf] at hcalls
    rw [List.any_cons, Bool.or_eq_false_iff] at hcm
    obtain ⟨f, hlast, hs⟩ := access_field (t := tg) (a := a) hrest hlexr hcm.1
    have hfo : fieldOf (.inner .fieldAccess (tg :: rest) a) = f.text := by unfold fieldOf; rw [hlast]; rfl
    rw [List.reverse_cons, List.foldl_append, List.foldl_cons, List.foldl_nil, hspec, hs, hfo]
    simp only [ANode.kind, beq_self_eq_true, ↓reduceIte]
    exact (ih ht.lex ht.q hcalls hcm.2 (fun hk => ht.enabled (.inl hk)) id hid hidk).app
      ((Carries.mkText e.wd .syn ".").app (Carries.mkText e.wd .lit f.text))

/-- **The resolved dot chain**, processed innermost first, leaves the stylist with items that carry
the whole expression. -/
theorem dotChain_carries (e : Env) (r : Rec) (hr : RecOK r Q) (hQ : DotQ Q) (ctx : Ctx) (hnm : NM ctx)
    (hargs : ∀ args, args.kind = .args → Q args → Post (convArgs e r ctx args) (fun d => Carries d (specAll args))) :
    ∀ (fuel : Nat) (n : ANode), isExpr n = true → ANode.tokensAreLeaves n = true → Q n → n.depth ≤ fuel →
      ((n.kind = .fieldAccess ∨ n.kind = .funcCall) → n.attrs.disabled = false) →
      ∀ (acc : CS × Bool) (sp : Streams), CInvS acc.1 acc.2 sp →
      Post ((resolveDotChain fuel n).reverse.foldlM
          (CS.nodeStepM e ctx (fun node => node.kind == .fieldAccess) (fun st c => do pure (st, ← dotOp e c)) (dotRhs e) (dotFallback e r)) acc)
        (fun r' => CInvS r'.1 r'.2 (sp.app (specAll n))) := by
  intro fuel n hx hlex hq hd hdis
  refine chain_carries (Good := DotHead Q) ?_ ?_ (resolveDotChain_isChain hd) ⟨hx, hlex, hq, hdis⟩
  · intro n hn hnl
    rw [Bool.or_eq_false_iff] at hnl
    refine nodeStepM_fallback_carries hnl.1 ?_
    rw [show dotFallback e r ctx n = (do pure (some (← r.expr ctx n))) by simp [dotFallback, hnl.2, hn.expr]]
    exact Post.map (hr.expr ctx n hnm hn.expr hn.q)
  · intro n hn hcond
    by_cases hfa : n.kind = .fieldAccess
    · obtain ⟨t, rest, a, rfl, ht, hfw, hrest, hlexr, hspec⟩ := hQ.access_shape hn.q hfa (hn.enabled (.inl hfa))
      exact ⟨t, _, hfw, ht, hspec, nodeStepM_operand_carries rfl (fun st => by rw [dotOp_expr ht.expr]; exact Post.pure rfl)
        ht.expr (dotRest_fold rest hrest hlexr)⟩
    · have hfc : n.kind = .funcCall := by simpa [hfa] using hcond
      obtain ⟨callee, args, a, rfl, ht, hfw, hak, hqargs, hlast, hspec⟩ := hQ.call_shape hn.q hfc (hn.enabled (.inr hfc))
      refine ⟨callee, _, hfw, ht, hspec, nodeStepM_fallback_carries rfl ?_⟩
      rw [dotFallback_call rfl hlast]
      exact Post.map (hargs args hak hqargs)

theorem plainChain_carries (e : Env) (hQ : DotQ Q) :
    ∀ (fuel : Nat) (t : ANode), ANode.tokensAreLeaves t = true → Q t → t.depth ≤ fuel →
      ((resolveDotChain fuel t).filter (·.kind == .funcCall)).length = 0 →
      (resolveDotChain fuel t).any hasCommentChildren = false →
      (t.kind = .fieldAccess → t.attrs.disabled = false) →
      ∀ id, (resolveDotChain fuel t).getLast? = some id → id.kind = .ident →
      Carries ((resolveDotChain fuel t).reverse.foldl
        (fun doc c => if c.kind == .fieldAccess then doc ++ (e.syn "." ++ e.lit (fieldOf c)) else doc) (e.lit id.text)) (specAll t) := by
  intro fuel t hlex hq hd
  exact plainChain_of_isChain e hQ (resolveDotChain_isChain hd) hlex hq

theorem convDotChain_carries (hr : RecOK r Q) (hQ : DotQ Q) (hnm : NM ctx)
    (hargs : ∀ args, args.kind = .args → Q args → Post (convArgs e r ctx args) (fun d => Carries d (specAll args)))
    {n : ANode} (hx : isExpr n = true) (hlex : ANode.tokensAreLeaves n = true) (hq : Q n) (hdis : n.attrs.disabled = false) :
    Post (convDotChain e r ctx n) (fun d => Carries d (specAll n)) := by
  unfold convDotChain CS.processM
  simp only [bind_assoc, pure_bind]
  exact Post.bind (dotChain_carries e r hr hQ ctx hnm hargs n.depth n hx hlex hq (Nat.le_refl _) (fun _ => hdis) ({}, false) {} .empty)
    (fun r' h => chain_print_carries e true false (by simpa using h))

theorem fieldAccessProducer_ok (hr : RecOK r Q) : ProducerH (fieldAccessProducer e r) specAll
    (fun c x => NM c ∧ ChildOK Q x ∧ (x.kind = .dot ∨ isExpr x = true ∨ x.kind = .space)) := by
  rintro st c child ⟨hnm, hok, hk⟩
  exact Post.ite (fun hd => Post.map (synLeaf_carries e child "." hok.1 (plain_of_beq hd dot_plain))) fun hd =>
    Post.ite (fun hx => Post.map (hr.expr c child hnm hx hok.2)) fun hx =>
    Post.pure (specAll_space child hok.1 ((hk.resolve_left (by simpa using hd)).resolve_left hx))

theorem convFieldAccessPlain_nocomment {t : ANode} {rest : List ANode} {a : Attrs} (hda : a.disabled = false)
    (hxt : isExpr t = true) (hrest : faRest 0 rest = true) (hlex : ANode.tokensAreLeavesL rest = true)
    (hcm : hasCommentChildren (.inner .fieldAccess (t :: rest) a) = false)
    (ht : Post (r.expr ctx t) (fun d => Carries d (specAll t))) :
    Post (convFieldAccessPlain e r ctx (.inner .fieldAccess (t :: rest) a))
      (fun d => Carries d (specAll (.inner .fieldAccess (t :: rest) a))) := by
  obtain ⟨f, hlast, hs⟩ := access_field (t := t) (a := a) hrest hlex hcm
  rw [specAll_enabled (k := .fieldAccess) _ hda rfl, specAllL_cons, hs]
  unfold convFieldAccessPlain
  simp only [hcm, Bool.false_eq_true, ↓reduceIte, firstWhere_cons hxt, hlast, childOr, M.pure_bind]
  refine Post.bind ht (fun d hd => Post.pure ?_)
  simpa [Streams.app_assoc, Env.syn, Env.lit] using (hd.app (Carries.mkText e.wd .syn ".")).app (Carries.mkText e.wd .lit f.text)

theorem convFieldAccessPlain_carries (hr : RecOK r Q) (hnm : NM ctx)
    {t : ANode} {rest : List ANode} {a : Attrs} (hda : a.disabled = false)
    (hxt : isExpr t = true) (hrest : faRest 0 rest = true)
    (hlex : ANode.tokensAreLeavesL (t :: rest) = true) (hq : ∀ c ∈ t :: rest, Q c) :
    Post (convFieldAccessPlain e r ctx (.inner .fieldAccess (t :: rest) a))
      (fun d => Carries d (specAll (.inner .fieldAccess (t :: rest) a))) := by
  cases hcm : hasCommentChildren (.inner .fieldAccess (t :: rest) a) with
  | false =>
    exact convFieldAccessPlain_nocomment hda hxt hrest (Bool.and_eq_true _ _ ▸ hlex).2 hcm (hr.expr ctx t hnm hxt (hq t List.mem_cons_self))
  | true =>
    -- comments among the children: a flow, which prints them itself
    rw [specAll_enabled (k := .fieldAccess) _ hda rfl]
    unfold convFieldAccessPlain
    rw [if_pos hcm]
    refine flowM_specAllH (fieldAccessProducer_ok hr) _ hlex (okSeq_of_forall _ (fun c hc => ?_) false) ()
    have hok : ChildOK Q c := ⟨tokensAreLeavesL_mem hlex hc, hq c hc⟩
    rcases List.mem_cons.mp hc with rfl | hc'
    · exact .inr fun hh => ⟨hnm.withModeIf hh, hok, .inr (.inl hxt)⟩
    · exact (faRest_mem hrest hc').imp (fun h => .inr (.inl h)) fun h hh => ⟨hnm.withModeIf hh, hok, h⟩

theorem resolveDotChain_cons (fuel : Nat) (n : ANode) : ∃ xs, resolveDotChain fuel n = n :: xs := by
  cases fuel with
  | zero => exact ⟨[], rfl⟩
  | succ f => unfold resolveDotChain; exact ⟨_, rfl⟩

theorem tryDotChainPlain_not_call {n : ANode} (hk : n.kind ≠ .funcCall) (xs : List ANode) :
    tryDotChainPlain e r ctx (n :: xs) = pure none := by
  unfold tryDotChainPlain
  simp only [show (n :: xs).reverse.getLast? = some n by simp]
  cases (n :: xs).reverse.head? with
  | none => rfl
  | some id => simp [hk]

theorem tryDotChainPlain_post (hQ : DotQ Q)
    (hargs : ∀ args, args.kind = .args → Q args → Post (convArgs e r ctx args) (fun d => Carries d (specAll args)))
    {n : ANode} (hq : Q n) (hdis : n.attrs.disabled = false)
    (hcalls : ((resolveDotChain n.depth n).filter (·.kind == .funcCall)).length = 1)
    (hcm : (resolveDotChain n.depth n).any hasCommentChildren = false) :
    Post (tryDotChainPlain e r ctx (resolveDotChain n.depth n)) (fun o =>
      match o with
      | some d => Carries d (specAll n)
      | none => True) := by
  have hc := resolveDotChain_isChain (Nat.le_refl n.depth)
  generalize resolveDotChain n.depth n = chain at hc hcalls hcm
  obtain ⟨tail, rfl⟩ := hc.eq_cons
  unfold tryDotChainPlain
  simp only [List.getLast?_reverse, List.head?_cons, List.head?_reverse]
  cases hid : (n :: tail).getLast? with
  | none => exact Post.pure trivial
  | some id =>
    refine Post.ite (fun _ => Post.pure trivial) fun hk => ?_
    simp only [Bool.or_eq_true, bne_iff_ne, ne_eq, not_or, Decidable.not_not] at hk
    split
    · exact Post.pure trivial
    -- the chain is the call `n`, then the chain of field accesses of its callee down to `id`
    obtain ⟨callee, args, a, rfl, ht, hfw, hak, hqargs, hlast, hspec⟩ := hQ.call_shape hq hk.1 hdis
    cases hc with
    | last hstuck => cases hfw.symm.trans (hstuck rfl)
    | cons _ hfind htail =>
      cases hfw.symm.trans hfind
      obtain ⟨xs, rfl⟩ := htail.eq_cons
      rw [List.filter_cons, show ((ANode.inner Kind.funcCall [callee, args] a).kind == Kind.funcCall) = true from rfl, if_pos rfl,
        List.length_cons, Nat.add_eq_right] at hcalls
      rw [List.any_cons, Bool.or_eq_false_iff] at hcm
      rw [List.getLast?_cons_cons] at hid
      simp only [hlast, childOr, M.pure_bind]
      refine Post.bind (hargs args hak hqargs) (fun da hda => Post.pure ?_)
      rw [hspec, List.reverse_cons, List.foldl_append, List.foldl_cons, List.foldl_nil,
        show ((ANode.inner Kind.funcCall [callee, args] a).kind == Kind.fieldAccess) = false from rfl, if_neg Bool.false_ne_true]
      exact (plainChain_of_isChain e hQ htail ht.lex ht.q hcalls hcm.2 (fun hk => ht.enabled (.inl hk)) id hid hk.2).app hda

theorem tryDotChain_post (e : Env) (r : Rec) (hr : RecOK r Q) (hQ : DotQ Q) (ctx : Ctx) (hnm : NM ctx)
    (hargs : ∀ ctx, NM ctx → ∀ args, args.kind = .args → Q args → Post (convArgs e r ctx args) (fun d => Carries d (specAll args)))
    (n : ANode) (hx : isExpr n = true) (hlex : ANode.tokensAreLeaves n = true) (hq : Q n) (hdis : n.attrs.disabled = false) :
    Post (tryDotChain e r ctx n) (fun o =>
      match o with
      | some d => Carries d (specAll n)
      | none => True) := by
  have hchain : ∀ ctx, NM ctx → Post (convDotChain e r ctx n) (fun d => Carries d (specAll n)) :=
    fun ctx hnm => convDotChain_carries hr hQ hnm (hargs ctx hnm) hx hlex hq hdis
  unfold tryDotChain
  split
  · exact Post.pure trivial
  · extract_lets chain dotNum callNum hasCmt tail
    -- `tail`: what follows the attempt at a plain layout
    have htail : ∀ plain, (match plain with | some d => Carries d (specAll n) | none => True) →
        Post (tail plain) (fun o => match o with | some d => Carries d (specAll n) | none => True) := by
      rintro (_ | d) hplain
      · simp only [tail]
        split
        · exact Post.map (parenthesizeIfNecessary_carries e ctx hnm hchain)
        · split
          · exact Post.map (hchain ctx hnm)
          · exact Post.pure trivial
      · exact Post.pure hplain
    split
    · rename_i hc
      simp only [dotNum, callNum, hasCmt, chain, Bool.and_eq_true, decide_eq_true_eq, beq_iff_eq, Bool.not_eq_true'] at hc
      exact Post.bind (tryDotChainPlain_post hQ (hargs ctx hnm) hq hdis hc.1.2 hc.2) htail
    · exact Post.bind (Post.pure (a := none) trivial) htail

theorem convFieldAccess_carries (e : Env) (r : Rec) (hr : RecOK r Q) (hQ : DotQ Q) (ctx : Ctx) (hnm : NM ctx)
    (hargs : ∀ ctx, NM ctx → ∀ args, args.kind = .args → Q args → Post (convArgs e r ctx args) (fun d => Carries d (specAll args)))
    (cs : List ANode) (a : Attrs) (hq : Q (.inner .fieldAccess cs a)) (hdis : a.disabled = false) :
    Post (convFieldAccess e r ctx (.inner .fieldAccess cs a)) (fun d => Carries d (specAll (.inner .fieldAccess cs a))) := by
  obtain ⟨-, hlexL, hqc⟩ := hQ.access cs a hq hdis
  unfold convFieldAccess
  refine Post.bind (tryDotChain_post e r hr hQ ctx hnm hargs _ rfl hlexL hq hdis) ?_
  rintro (_ | d) ho
  · obtain ⟨t, rest, _, h, ht, _, hrest, _⟩ := hQ.access_shape hq rfl hdis
    cases h
    exact convFieldAccessPlain_carries hr hnm hdis ht.expr hrest hlexL hqc
  · exact Post.pure ho

end Typstyle
