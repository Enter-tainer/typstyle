import TypstyleModel.Proofs.CarriesList
import TypstyleModel.Proofs.Repr
/-! Markup (route M): `convert_markup_impl` carries what the children of the `Markup` node prescribe —
through the line representation, whatever the scope and the boundaries. -/
namespace Typstyle
open Twin

theorem specAllL_filter_ws (cs : List ANode) (h : ANode.tokensAreLeavesL cs = true) :
    specAllL (cs.filter fun n => !isWsNode n) = specAllL cs :=
  specAllL_filter _ cs (fun c hc hp => specAll_ws c (tokensAreLeavesL_mem h hc) (Bool.not_eq_false' _ ▸ hp))

/-- All nodes of the lines of a representation. -/
def lineNodes (lines : List MLine) : List ANode := lines.flatMap (·.nodes)

theorem lineNodes_append (a b : List MLine) : lineNodes (a ++ b) = lineNodes a ++ lineNodes b := List.flatMap_append

theorem stripTrailing_nodes (fuel : Nat) (nodes : List ANode) (b : Bound) :
    ∃ dropped, nodes = (stripTrailing fuel nodes b).1 ++ dropped ∧ ∀ x ∈ dropped, isWsNode x = true := by
  induction fuel generalizing nodes b with
  | zero => exact ⟨[], by simp [stripTrailing], nofun⟩
  | succ fuel ih =>
    unfold stripTrailing
    split
    next => exact ⟨[], by simp, nofun⟩
    next l hl =>
      split
      next hk =>
        obtain ⟨dropped, h1, h2⟩ := ih nodes.dropLast (Bound.fromSpace l.text)
        refine ⟨dropped ++ [l], ?_, fun x hx => ?_⟩
        · rw [← List.append_assoc, ← h1]; exact dropLast_getLast nodes l hl
        · rcases List.mem_append.mp hx with hx | hx
          · exact h2 x hx
          · rw [List.mem_singleton.mp hx, isWsNode, hk]; rfl
      next => exact ⟨[], by simp, nofun⟩

/-- **The line representation holds exactly the children that are not white space**, in order, and
nothing else. -/
theorem collectMarkupRepr_nodes' (children : List ANode) (P : ANode → Prop) (hc : ∀ x ∈ children, x.kind ≠ .parbreak → P x) :
    (lineNodes (collectMarkupRepr children).lines).filter (fun n => !isWsNode n) = children.filter (fun n => !isWsNode n) ∧
    (∀ x ∈ lineNodes (collectMarkupRepr children).lines, P x) := by
  obtain ⟨kept, hk, hfilter, hmem⟩ := repr_nodes children (([] : List MLine), ({} : MLine), Bound.nil)
  -- the lines hold the nodes `kept` by the main loop, but for white space at the end of the last line
  suffices ∃ dropped, kept = lineNodes (collectMarkupRepr children).lines ++ dropped ∧ ∀ x ∈ dropped, isWsNode x = true by
    obtain ⟨dropped, he, hd⟩ := this
    have hdn : dropped.filter (fun n => !isWsNode n) = [] := List.filter_eq_nil_iff.mpr (fun x hx => by simp [hd x hx])
    refine ⟨?_, fun x hx => hc x (hmem x (he ▸ List.mem_append_left _ hx)).1 (hmem x (he ▸ List.mem_append_left _ hx)).2⟩
    rw [← hfilter, he, List.filter_append, hdn, List.append_nil]
  simp only [reprNodes, List.flatMap_nil, List.nil_append] at hk
  unfold collectMarkupRepr
  simp only
  generalize children.foldl reprStep (([] : List MLine), ({} : MLine), Bound.nil) = r at hk
  have hlines : lineNodes (if !r.2.1.nodes.isEmpty then r.1 ++ [r.2.1] else r.1) = kept := by
    rw [← hk]
    split
    next => rw [lineNodes_append]; simp [lineNodes]
    next he => rw [show r.2.1.nodes = [] by simpa using he]; simp [lineNodes]
  generalize (if !r.2.1.nodes.isEmpty then r.1 ++ [r.2.1] else r.1) = lines at hlines
  split
  next => exact ⟨[], by simp [hlines], nofun⟩
  next last hl =>
    have hst : ∀ (l0 : MLine) (b0 : Bound), l0.nodes = last.nodes → ∃ dropped,
        kept = lineNodes (lines.dropLast ++ [{ l0 with nodes := (stripTrailing (l0.nodes.length + 1) l0.nodes b0).1 }]) ++ dropped ∧
        ∀ x ∈ dropped, isWsNode x = true := by
      intro l0 b0 hl0
      obtain ⟨dropped, h1, h2⟩ := stripTrailing_nodes (l0.nodes.length + 1) l0.nodes b0
      refine ⟨dropped, ?_, h2⟩
      rw [← hlines, dropLast_getLast lines last hl, List.dropLast_concat, lineNodes_append, lineNodes_append, List.append_assoc]
      simp [lineNodes, ← hl0, ← h1]
    split <;> exact hst _ _ rfl

theorem collectMarkupRepr_nodes (children : List ANode) :
    (lineNodes (collectMarkupRepr children).lines).filter (fun n => !isWsNode n) = children.filter (fun n => !isWsNode n) ∧
    (∀ x ∈ lineNodes (collectMarkupRepr children).lines, x ∈ children) :=
  collectMarkupRepr_nodes' children (· ∈ children) (fun _ hx _ => hx)

/-- What `convert_markup_impl` may meet on a line: text, expressions, comments, white space, and plain
tokens (`#`, `;`, a shebang). -/
def MarkupChildOK (Q : ANode → Prop) (x : ANode) : Prop :=
  ANode.tokensAreLeaves x = true ∧ (isExpr x = true → Q x) ∧
  (x.kind = .space ∨ x.kind = .text ∨ isExpr x = true ∨ isCommentKind x.kind = true ∨ x.kind.isPlainToken = true)

section
variable {Q : ANode → Prop} (e : Env) (r : Rec) (hr : RecOK r Q) (ctx : Ctx) (hctx : NM ctx)
include hr hctx

theorem markupNodeStep_carries (mixed : Bool) (doc : Doc) (sa : Streams) (hd : Carries doc sa) (x : ANode) (hok : MarkupChildOK Q x) :
    Post (markupNodeStep e r ctx mixed doc x) (fun d => Carries d (sa.app (specAll x))) := by
  -- every branch converts the node and appends the result
  have jp : ∀ {m : M Doc}, Post m (fun d => Carries d (specAll x)) →
      Post (m >>= fun d => pure (doc ++ d)) (fun d => Carries d (sa.app (specAll x))) :=
    fun hm => Post.bind hm (fun d h => Post.pure (hd.app h))
  refine Post.ite (fun hs => jp (Post.pure (specAll_space x hok.1 (beq_iff_eq.mp hs) ▸ Carries.space))) fun hs =>
    Post.ite (fun ht => jp (Post.pure ((Carries.mkText e.wd .prose _).congr ?_))) fun ht =>
    Post.ite (fun hx => jp (hr.expr _ x (by cases mixed <;> exact hctx) hx (hok.2.1 hx))) fun hx =>
    Post.ite (fun hc => jp ((commentOK e x hc).mono fun d h => h.congr (specAll_comment x hok.1 hc).symm)) fun hc =>
    jp (Post.pure (tok_carries e x hok.1 ?_))
  · have ht := beq_iff_eq.mp ht
    rw [token_eq_leaf hok.1 (by rw [ht]; rfl), ht]; exact (specAll_leaf .text _ _ rfl rfl).symm
  · exact (((hok.2.2.resolve_left (fun h => hs (by rw [h]; rfl))).resolve_left (fun h => ht (by rw [h]; rfl))).resolve_left hx).resolve_left hc

theorem markupLineStep_carries (doc : Doc) (sa : Streams) (hd : Carries doc sa) (l : MLine) (hok : ∀ x ∈ l.nodes, MarkupChildOK Q x) :
    Post (markupLineStep e r ctx doc l) (fun d => Carries d (sa.app (specAllL l.nodes))) := by
  unfold markupLineStep
  refine Post.bind (Post.foldlM_sem_ok specAllL_nil specAllL_cons (I := fun d s => Carries d s)
    (fun d s x h hx => markupNodeStep_carries e r hr ctx hctx _ d s h x hx) l.nodes hok doc sa hd) (fun d h => Post.pure ?_)
  split
  · simpa using h.app (Carries.repeatN Carries.hardline l.breaks)
  · exact h

end

theorem getDelim_carries {scope : Scope} {isSym hasLB suppressed : Bool} {b : Bound} :
    Carries (getDelim scope isSym hasLB suppressed b) {} := by
  unfold getDelim
  refine Carries.ite (Carries.ite Carries.hardline Carries.nil) ?_
  cases b with
  | nil => exact Carries.nil
  | nilOrBreak => exact Carries.ite Carries.nil Carries.line_
  | spaceOrBreak | weakSpaceOrBreak => exact Carries.ite Carries.line (Carries.ite Carries.nil Carries.space)
  | brk | weakBreak => exact Carries.hardline

/-- **`convert_markup_impl` carries what the children of the node prescribe**, for every scope;
`convert_markup_impl` on children that may include paragraph breaks of any kind — also one that
carries the `@typstyle off` mark: the line representation turns every `Parbreak` into a line boundary
before any child is converted, so the mark on it is never looked at. -/
theorem convMarkup_carries_parbreak {Q : ANode → Prop} (e : Env) (r : Rec) (hr : RecOK r Q) (ctx : Ctx) (k : Kind) (cs : List ANode) (a : Attrs)
    (scope : Scope) (hok : ∀ x ∈ cs, MarkupChildOK Q x ∨ (x.kind = .parbreak ∧ ANode.tokensAreLeaves x = true)) :
    Post (convMarkup e r ctx (.inner k cs a) scope) (fun d => Carries d (specAllL cs)) := by
  have hlex : ANode.tokensAreLeavesL cs = true :=
    (tokensAreLeavesL_iff cs).mpr (fun c hc => (hok c hc).elim (·.1) (·.2))
  unfold convMarkup
  refine Post.bind_any (fun _ => ?_)
  refine Post.ite (fun h1 => Post.pure ?_) fun _ => ?_
  · obtain ⟨c, rfl, hc⟩ : ∃ c, cs = [c] ∧ (c.kind == .space) = true := by
      rcases cs with _ | ⟨c, _ | _⟩
      · cases h1
      · exact ⟨c, rfl, h1⟩
      · cases h1
    rw [specAllL_cons, specAllL_nil, Streams.app_empty, specAll_space c (tokensAreLeavesL_mem hlex List.mem_cons_self) (beq_iff_eq.mp hc)]
    exact Carries.space
  · simp only [ANode.children]
    have hrepr := collectMarkupRepr_nodes' cs (MarkupChildOK Q) (fun x hx hpb => (hok x hx).resolve_right (fun h => hpb h.1))
    have hlexlines : ANode.tokensAreLeavesL (lineNodes (collectMarkupRepr cs).lines) = true :=
      (tokensAreLeavesL_iff _).mpr (fun x hx => (hrepr.2 x hx).1)
    have hspec : specAllL (lineNodes (collectMarkupRepr cs).lines) = specAllL cs := by
      rw [← specAllL_filter_ws _ hlexlines, hrepr.1, specAllL_filter_ws cs hlex]
    refine Post.bind (Post.foldlM_sem_ok (step := markupLineStep e r (ctx.withMode .markup)) (sem := fun l => specAllL l.nodes)
       (semL := fun ls => specAllL (lineNodes ls)) rfl
      (fun l _ => specAllL_append l.nodes _) (I := fun d s => Carries d s)
      (fun d s l h hl => markupLineStep_carries e r hr _ (NM.withMode .markup (by decide)) d s h l hl)
      (collectMarkupRepr cs).lines (fun l hl x hx => hrepr.2 x (List.mem_flatMap.mpr ⟨l, hl, hx⟩)) Doc.nil {} Carries.nil)
      (fun d h => Post.pure ?_)
    rw [Streams.empty_app, hspec] at h
    simpa using h.enclose getDelim_carries getDelim_carries

/-- The same for children none of which needs the parbreak exemption. -/
theorem convMarkup_carries {Q : ANode → Prop} (e : Env) (r : Rec) (hr : RecOK r Q) (ctx : Ctx) (k : Kind) (cs : List ANode) (a : Attrs)
    (scope : Scope) (hok : ∀ x ∈ cs, MarkupChildOK Q x) :
    Post (convMarkup e r ctx (.inner k cs a) scope) (fun d => Carries d (specAllL cs)) :=
  convMarkup_carries_parbreak e r hr ctx k cs a scope (fun x hx => Or.inl (hok x hx))

end Typstyle
