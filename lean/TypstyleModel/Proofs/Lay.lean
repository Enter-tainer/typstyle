import TypstyleModel.Model.Doc
/-! Consistent layouts and layout soundness of the renderer (R1, R2). -/
namespace Pretty

/-- All layouts a document can take: every group is flat or broken, flat is inherited,
and a flat region never contains a hard line break. -/
inductive Lay : Mode → Doc → List Atom → Prop
  | nil {m} : Lay m .nil []
  | text {m s len t} : Lay m (.text s len t) [.txt s t]
  | hardline {k} : Lay .brk .hardline [.nl k]
  | append {m a b xs ys} : Lay m a xs → Lay m b ys → Lay m (.append a b) (xs ++ ys)
  | groupSame {m d xs} : Lay m d xs → Lay m (.group d) xs
  | groupFlat {d xs} : Lay .flat d xs → Lay .brk (.group d) xs
  | flatAltB {b f xs} : Lay .brk b xs → Lay .brk (.flatAlt b f) xs
  | flatAltF {b f xs} : Lay .flat f xs → Lay .flat (.flatAlt b f) xs
  | nest {m n d xs} : Lay m d xs → Lay m (.nest n d) xs
  | align {m d xs} : Lay m d xs → Lay m (.align d) xs

inductive LayCmds : List Cmd → List Atom → Prop
  | nil : LayCmds [] []
  | cons {c cs xs ys} : Lay c.mode c.doc xs → LayCmds cs ys → LayCmds (c :: cs) (xs ++ ys)

/-! `a ++ b`, `d.grp`, `d.nst n` are not constructor applications (`Nil` is dropped, a group of a group and
`nest 0` are not made), so `cases` does not take a layout of one apart. -/

section
variable {m : Mode} {a b d : Doc} {xs : List Atom}

theorem lay_app_iff : Lay m (a ++ b) xs ↔ ∃ xa xb, xs = xa ++ xb ∧ Lay m a xa ∧ Lay m b xb := by
  show Lay m (Doc.app a b) xs ↔ _
  unfold Doc.app
  split
  · exact ⟨fun h => ⟨[], xs, rfl, .nil, h⟩, fun ⟨_, _, e, ha, hb⟩ => by cases ha; exact e ▸ hb⟩
  · exact ⟨fun h => ⟨xs, [], (List.append_nil _).symm, h, .nil⟩,
      fun ⟨_, _, e, ha, hb⟩ => by cases hb; rw [e, List.append_nil]; exact ha⟩
  · exact ⟨fun h => by cases h with | append h1 h2 => exact ⟨_, _, rfl, h1, h2⟩,
      fun ⟨_, _, e, ha, hb⟩ => e ▸ .append ha hb⟩

theorem Doc.grp_cases (d : Doc) : d.grp = d ∨ d.grp = .group d := by
  cases d <;> simp only [Doc.grp, true_or, or_true]
  split <;> simp

/-- The mode may change: a broken group may be laid out flat. -/
theorem lay_grp_inv (h : Lay m d.grp xs) : ∃ m', Lay m' d xs := by
  rcases d.grp_cases with e | e <;> rw [e] at h
  · exact ⟨m, h⟩
  · cases h with
    | groupSame h' => exact ⟨_, h'⟩
    | groupFlat h' => exact ⟨_, h'⟩

theorem lay_grp_intro (h : Lay m d xs) : Lay m d.grp xs := by
  rcases d.grp_cases with e | e <;> rw [e]
  · exact h
  · exact .groupSame h

theorem lay_nst_iff {n : Nat} : Lay m (d.nst n) xs ↔ Lay m d xs := by
  unfold Doc.nst
  split
  · exact .rfl
  · split
    · exact .rfl
    · exact ⟨fun h => by cases h with | nest h' => exact h', .nest⟩

theorem lay_mkText_cases {wd : String → Nat} {t : Tag} {s : String} (h : Lay m (mkText wd t s) xs) :
    s = "" ∧ xs = [] ∨ xs = [.txt s t] := by
  unfold mkText at h
  split at h
  next he => cases h; exact .inl ⟨by simpa using he, rfl⟩
  next => cases h; exact .inr rfl

theorem lay_mkText {wd : String → Nat} {t : Tag} {s : String} (hs : s.isEmpty = false)
    (h : Lay m (mkText wd t s) xs) : xs = [.txt s t] :=
  (lay_mkText_cases h).resolve_left fun h0 => by simp [h0.1] at hs

/-- The facts the printer's documents carry by construction (`EmitsS`, `Emits`) have this form. -/
def LayAll (P : List Atom → Prop) (d : Doc) : Prop := ∀ m xs, Lay m d xs → P xs

theorem LayAll.grp {P} (h : LayAll P d) : LayAll P d.grp :=
  fun _ xs hl => let ⟨m', h'⟩ := lay_grp_inv hl; h m' xs h'

theorem LayAll.nst {P n} (h : LayAll P d) : LayAll P (d.nst n) :=
  fun m xs hl => h m xs (lay_nst_iff.mp hl)

theorem LayAll.falt {P} (ha : LayAll P a) (hb : LayAll P b) : LayAll P (Doc.falt a b) := by
  intro m xs hl
  cases hl with
  | flatAltB h' => exact ha _ _ h'
  | flatAltF h' => exact hb _ _ h'

theorem LayAll.app {f : List Atom → List Char} (hf : ∀ xs ys, f (xs ++ ys) = f xs ++ f ys) {sa sb}
    (ha : LayAll (fun xs => f xs = sa) a) (hb : LayAll (fun xs => f xs = sb) b) :
    LayAll (fun xs => f xs = sa ++ sb) (a ++ b) := by
  intro m xs h
  obtain ⟨xa, xb, rfl, h1, h2⟩ := lay_app_iff.mp h
  rw [hf, ha m xa h1, hb m xb h2]

end

def FlatNoHard : Doc → Prop
  | .nil => True
  | .text _ _ _ => True
  | .hardline => False
  | .append a b => FlatNoHard a ∧ FlatNoHard b
  | .group d => FlatNoHard d
  | .flatAlt _ f => FlatNoHard f
  | .nest _ d => FlatNoHard d
  | .align d => FlatNoHard d

def AllNH : List Doc → Prop
  | [] => True
  | d :: ds => FlatNoHard d ∧ AllNH ds

theorem fitting_flat (w pos : Nat) (fcmds : List Doc) (mode : Mode) (rest : List Cmd)
    (hm : mode = .flat) (h : fitting w pos fcmds mode rest = true) : AllNH fcmds := by
  fun_induction fitting w pos fcmds mode rest <;> simp_all [AllNH, FlatNoHard, pick]

def CmdsOK (cmds : List Cmd) : Prop := ∀ c ∈ cmds, c.mode = .flat → FlatNoHard c.doc

theorem LayCmds.head {i i' m m' d d' rest zs} (h : LayCmds (⟨i', m', d'⟩ :: rest) zs)
    (f : ∀ xs, Lay m' d' xs → Lay m d xs) : LayCmds (⟨i, m, d⟩ :: rest) zs := by
  cases h with
  | cons h1 h2 => exact .cons (f _ h1) h2

theorem LayCmds.append {i m a b rest zs} (h : LayCmds (⟨i, m, a⟩ :: ⟨i, m, b⟩ :: rest) zs) :
    LayCmds (⟨i, m, .append a b⟩ :: rest) zs := by
  cases h with
  | cons h1 h2 =>
    cases h2 with
    | cons h2 h3 => rw [← List.append_assoc]; exact .cons (.append h1 h2) h3

theorem LayCmds.single {c zs} (h : LayCmds [c] zs) : Lay c.mode c.doc zs := by
  cases h with
  | cons h1 h2 => cases h2; rwa [List.append_nil]

theorem best_lay (w pos : Nat) (cmds : List Cmd) (hok : CmdsOK cmds) :
    LayCmds cmds (best w pos cmds) := by
  fun_induction best w pos cmds <;> simp only [CmdsOK, List.forall_mem_cons, FlatNoHard] at *
  case case1 => exact .nil
  case case2 ih => exact .cons (c := ⟨_, _, .nil⟩) .nil (ih hok.2)
  case case3 ih => exact (ih ⟨fun h => (hok.1 h).1, fun h => (hok.1 h).2, hok.2⟩).append
  case case4 m _ _ _ ih =>
    cases m
    · exact (ih ⟨nofun, hok.2⟩).head fun _ => .flatAltB
    · exact (ih hok).head fun _ => .flatAltF
  case case5 pos _ m rest d m' ih =>
    -- a group is laid out flat only where `fitting` has seen all of it, so without a hard break
    by_cases hfit : m = .brk ∧ fitting w pos [d] .flat rest = true
    · rw [show m' = .flat from dif_pos hfit] at ih ⊢; rw [hfit.1]
      exact (ih ⟨fun _ => (fitting_flat w pos [d] .flat rest rfl hfit.2).1, hok.2⟩).head fun _ => .groupFlat
    · rw [show m' = m from dif_neg hfit] at ih ⊢
      exact (ih hok).head fun _ => .groupSame
  case case6 ih => exact (ih hok).head fun _ => .nest
  case case7 ih => exact (ih hok).head fun _ => .align
  case case8 m =>
    cases m
    · exact .cons (c := ⟨_, .brk, .hardline⟩) .hardline .nil
    · exact (hok.1 rfl).elim
  case case9 m _ _ ih =>
    cases m
    · exact .cons (c := ⟨_, .brk, .hardline⟩) .hardline (ih hok.2)
    · exact (hok.1 rfl).elim
  case case10 ih => exact .cons (c := ⟨_, _, .text _ _ _⟩) .text (ih hok.2)

/-- **R1** (with R2 built into `Lay`): at every width the renderer's output is a consistent layout. -/
theorem pretty_lay (w : Nat) (d : Doc) : Lay .brk d (best w 0 [⟨0, .brk, d⟩]) :=
  (best_lay w 0 [⟨0, .brk, d⟩] (by simp [CmdsOK])).single

end Pretty
