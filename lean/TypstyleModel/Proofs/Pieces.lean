import TypstyleModel.Model.Printer.Markup
import TypstyleModel.Model.Printer.Math
import TypstyleModel.Proofs.Monad
/-! Markup lines and math bodies are the sequence of their children.

C08: the document of one markup line is the concatenation, in source order, of exactly one piece
per node of the line, followed by the line's hard breaks; the piece of a white-space node is one
blank, the piece of a text node is its text.

C09: the document `convert_math` builds for a `Math` node is the concatenation, in source order,
of exactly one piece per child; the piece of every child that is not an expression is determined by
that child alone (white space ↦ one hard break or one blank, according to whether it held a line break). -/
namespace Typstyle
open Twin

/-- The piece `convert_math` appends for `node`. An expression child contributes whatever its own
conversion returns (`True` here: nothing is claimed about it); every other child is determined. -/
def MathPiece (e : Env) (node : ANode) (d : Doc) : Prop :=
  isExpr node = false →
    (node.kind = .space → d = (if hasLinebreak node.text then Twin.hardline else Twin.space)) ∧
    (node.kind ≠ .space → node.kind = .hash → d = e.syn "#") ∧
    (node.kind ≠ .space → node.kind ≠ .hash → isCommentKind node.kind = true → d = e.cmtT node.text) ∧
    (node.kind ≠ .space → node.kind ≠ .hash → isCommentKind node.kind = false → d = e.tok node.text)

/-- `pieces` are the pieces of `nodes`, one each, in order. -/
inductive Pieces (e : Env) : List ANode → List Doc → Prop
  | nil : Pieces e [] []
  | cons {n d ns ds} : MathPiece e n d → Pieces e ns ds → Pieces e (n :: ns) (d :: ds)

theorem Pieces.snoc {e : Env} {ns : List ANode} {ds : List Doc} {n : ANode} {d : Doc}
    (h : Pieces e ns ds) (hp : MathPiece e n d) : Pieces e (ns ++ [n]) (ds ++ [d]) := by
  induction h with
  | nil => exact Pieces.cons hp Pieces.nil
  | cons h1 _ ih => exact Pieces.cons h1 ih

theorem Pieces.length {e : Env} {ns : List ANode} {ds : List Doc} (h : Pieces e ns ds) : ds.length = ns.length := by
  induction h with
  | nil => rfl
  | cons _ _ ih => simp [ih]

/-- The piece `convert_markup_impl` appends for one node of a line. -/
def MarkupPiece (e : Env) (node : ANode) (d : Doc) : Prop :=
  (node.kind = .space → d = Twin.space) ∧
  (node.kind = .text → d = e.prose node.intoText) ∧
  (node.kind ≠ .space → node.kind ≠ .text → isExpr node = false → isCommentKind node.kind = false → d = e.tok node.text)

inductive MPieces (e : Env) : List ANode → List Doc → Prop
  | nil : MPieces e [] []
  | cons {n d ns ds} : MarkupPiece e n d → MPieces e ns ds → MPieces e (n :: ns) (d :: ds)

theorem MPieces.snoc {e : Env} {ns : List ANode} {ds : List Doc} {n : ANode} {d : Doc}
    (h : MPieces e ns ds) (hp : MarkupPiece e n d) : MPieces e (ns ++ [n]) (ds ++ [d]) := by
  induction h with
  | nil => exact MPieces.cons hp MPieces.nil
  | cons h1 _ ih => exact MPieces.cons h1 ih

theorem MPieces.length {e : Env} {ns : List ANode} {ds : List Doc} (h : MPieces e ns ds) : ds.length = ns.length := by
  induction h with
  | nil => rfl
  | cons _ _ ih => simp [ih]

theorem Post.foldlM_pieces {β : Type} {step : β → ANode → M β} {doc : β → Doc} {R : ANode → Doc → Prop}
    {PS : List ANode → List Doc → Prop} (hnil : PS [] [])
    (hsnoc : ∀ {ns ds n d}, PS ns ds → R n d → PS (ns ++ [n]) (ds ++ [d]))
    (hstep : ∀ acc x, Post (step acc x) (fun acc' => ∃ d, R x d ∧ doc acc' = doc acc ++ d))
    (l : List ANode) (init : β) :
    Post (l.foldlM step init) (fun acc => ∃ ps, PS l ps ∧ doc acc = ps.foldl (· ++ ·) (doc init)) := by
  have hpre : ∀ (l pre : List ANode), l.foldl (fun pre x => pre ++ [x]) pre = pre ++ l := by
    intro l
    induction l with
    | nil => simp
    | cons x xs ih => intro pre; simp [ih]
  have := Post.foldlM_ghost (step := step) (gstep := fun pre x => pre ++ [x])
    (I := fun acc pre _ => ∃ ps, PS pre ps ∧ doc acc = ps.foldl (· ++ ·) (doc init))
    (fun acc pre x _ ⟨ps, hps, hacc⟩ => Post.mono (hstep acc x) (fun acc' ⟨d, hd, heq⟩ =>
      ⟨ps ++ [d], hsnoc hps hd, by rw [heq, hacc, List.foldl_append]; rfl⟩)) l init [] ⟨[], hnil, rfl⟩
  rwa [hpre, List.nil_append] at this

theorem mathStep_piece (e : Env) (r : Rec) (ctx : Ctx) (acc : Doc × Bool) (node : ANode) :
    Post (mathStep e r ctx acc node) (fun acc' => ∃ d, MathPiece e node d ∧ acc'.1 = acc.1 ++ d) := by
  obtain ⟨doc, atHash⟩ := acc
  refine Post.ite (fun hx => Post.bind_any fun d => Post.pure ⟨d, fun h => by simp [h] at hx, rfl⟩) fun _ =>
    Post.ite (fun hs => Post.pure ⟨_, by simp [MathPiece, beq_iff_eq.mp hs], rfl⟩) fun hs =>
    Post.ite (fun hh => Post.pure ⟨_, by simp [MathPiece, beq_iff_eq.mp hh], rfl⟩) fun hh => ?_
  simp only [beq_iff_eq] at hs hh
  exact Post.ite (fun hc => Post.pure ⟨_, by simp [MathPiece, hs, hh, hc], rfl⟩) fun hc =>
    Post.pure ⟨_, by simp [MathPiece, hs, hh, hc], rfl⟩

theorem markupNodeStep_piece (e : Env) (r : Rec) (ctx : Ctx) (mixed : Bool) (doc : Doc) (node : ANode) :
    Post (markupNodeStep e r ctx mixed doc node) (fun doc' => ∃ d, MarkupPiece e node d ∧ doc' = doc ++ d) := by
  refine Post.ite (fun hs => ?_) fun hs => Post.ite (fun ht => ?_) fun ht => ?_
  · rw [M.pure_bind]; exact Post.pure ⟨_, by simp [MarkupPiece, beq_iff_eq.mp hs], rfl⟩
  · rw [M.pure_bind]; exact Post.pure ⟨_, by simp [MarkupPiece, beq_iff_eq.mp ht], rfl⟩
  simp only [beq_iff_eq] at hs ht
  refine Post.ite (fun hx => Post.bind_any fun d => Post.pure ⟨d, by simp [MarkupPiece, hs, ht, hx], rfl⟩) fun _ =>
    Post.ite (fun hc => Post.bind_any fun d => Post.pure ⟨d, by simp [MarkupPiece, hs, ht, hc], rfl⟩) fun _ => ?_
  rw [M.pure_bind]; exact Post.pure ⟨_, by simp [MarkupPiece, hs, ht], rfl⟩

end Typstyle
