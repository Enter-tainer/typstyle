import TypstyleModel.Proofs.Tokens
import TypstyleModel.Proofs.Strip
/-! From the atoms of a layout to the characters of the output text: rendering and the post-pass
only add and remove blanks, so the kept characters of the output text are those of the atoms. -/
namespace Typstyle
open Pretty

theorem isWs_nl : isWs '\n' = true := by decide
theorem isWs_cr : isWs '\r' = true := by decide
theorem isWs_sp : isWs ' ' = true := by decide

abbrev nonWs (c : Char) : Bool := !isWs c

/-- The post-pass keeps every character that is not white space, in order (whole text). -/
theorem stripL_filter (s : List Char) : (stripL s).filter nonWs = s.filter nonWs := by
  unfold stripL
  split
  · rename_i h
    rw [h]; rfl
  · rw [List.filter_flatMap, ← linesL_filter nonWs (by simp [isWs_nl]) (by simp [isWs_cr]) s]
    congr 1
    funext l
    simp [isWs_nl, trimEndL_filter]

/-- Non-blank characters of all atoms of a layout, in order. -/
def allNonWs (xs : List Atom) : List Char :=
  xs.flatMap fun a => match a with
    | .txt s _ => s.toList.filter nonWs
    | .nl _ => []

/-- Rendering a layout adds only line feeds and blanks. -/
theorem renderAtoms_filter (xs : List Atom) : (renderAtoms xs).toList.filter nonWs = allNonWs xs := by
  unfold renderAtoms allNonWs
  rw [String.toList_join, List.flatMap_map, List.filter_flatMap]
  congr 1
  funext a
  cases a with
  | txt s t => rfl
  | nl n => simp [Atom.render, String.toList_append, isWs_nl, isWs_sp]

theorem filter_keepChar (l : List Char) :
    l.filter keepChar = (l.filter nonWs).filter (fun c => !isDelimChar c) := by
  rw [List.filter_filter]
  congr 1
  funext c
  exact Bool.and_comm ..

theorem output_keep (w : Nat) (d : Doc) :
    (strip (pretty w d)).toList.filter keepChar =
      (allNonWs (best w 0 [⟨0, .brk, d⟩])).filter (fun c => !isDelimChar c) := by
  unfold strip pretty
  rw [String.toList_ofList, filter_keepChar, stripL_filter, renderAtoms_filter]

theorem tokText_of_no_comment (xs : List Atom) (h : cmtText xs = []) :
    tokText xs = (allNonWs xs).filter (fun c => !isDelimChar c) := by
  show xs.flatMap (atomChars .tok) = _
  rw [allNonWs, List.filter_flatMap, List.flatMap_def, List.flatMap_def]
  congr 1
  refine List.map_congr_left fun a ha => ?_
  have hc : atomChars .cmt a = [] := List.flatMap_eq_nil_iff.mp h a ha
  cases a with
  | nl n => rfl
  | txt s t =>
    simp only [atomChars, charsOf] at hc ⊢
    split
    · rw [if_pos ‹_›] at hc
      rw [show s.toList.filter nonWs = [] from hc]; rfl
    · exact filter_keepChar _

mutual
theorem specCmts_plain_node : ∀ t : ANode, t.noCommentNoVerbatim = true → specCmts t = ""
  | .leaf k t a, h => by
    simp only [ANode.noCommentNoVerbatim, Bool.not_eq_true'] at h
    simp [specCmts, h]
  | .inner k cs a, h => by
    simp only [ANode.noCommentNoVerbatim, Bool.and_eq_true, Bool.not_eq_true'] at h
    simp [specCmts, h.1, specCmts_plain_list cs h.2]
theorem specCmts_plain_list : ∀ ts : List ANode, ANode.noCommentNoVerbatimL ts = true → specCmtsL ts = ""
  | [], _ => by simp [specCmtsL]
  | c :: cs, h => by
    simp only [ANode.noCommentNoVerbatimL, Bool.and_eq_true] at h
    simp [specCmtsL, specCmts_plain_node c h.1, specCmts_plain_list cs h.2]
end

theorem output_text_keeps_source_text (root : Node) (d : Twin.Doc)
    (ht : tokensCertified root d = true) (hc : commentsCertified root d = true)
    (hplain : (prepare root).noCommentNoVerbatim = true) (hb : (prepare root).blankSpaces = true) (u w : Nat) :
    keepOf (strip (pretty w (d.fam u))) = keepOf (prepare root).intoText := by
  have lay := pretty_lay w (d.fam u)
  have hcm : cmtText (best w 0 [⟨0, .brk, d.fam u⟩]) = [] := by
    refine (stream_certified (c := .cmt) hc u .brk _ lay).trans ?_
    rw [specCmts_plain_node _ hplain]; rfl
  have htk : tokText (best w 0 [⟨0, .brk, d.fam u⟩]) = _ := stream_certified (c := .tok) ht u .brk _ lay
  unfold keepOf
  rw [output_keep, ← tokText_of_no_comment _ hcm, htk, specToks_plain_node _ hplain hb, keepOf, String.toList_ofList]

/-- The text of every atom of a layout occurs, as it is, in the rendered text. -/
theorem render_infix (xs : List Atom) (a : Atom) (h : a ∈ xs) :
    (Atom.render a).toList <:+: (renderAtoms xs).toList := by
  obtain ⟨l1, l2, rfl⟩ := List.append_of_mem h
  unfold renderAtoms
  rw [String.toList_join, List.flatMap_map, List.flatMap_append, List.flatMap_cons]
  exact ⟨_, _, List.append_assoc ..⟩

theorem txt_infix_pretty (w : Nat) (d : Doc) (s : String) (t : Tag)
    (h : Atom.txt s t ∈ best w 0 [⟨0, .brk, d⟩]) : s.toList <:+: (pretty w d).toList :=
  -- the atom is spelt out: left to unification, `Atom.render ?a =?= s` is tried before `h` fixes `?a`, which is dear
  render_infix _ (.txt s t) h

end Typstyle
