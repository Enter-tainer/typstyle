import TypstyleModel.Proofs.Inf
/-! R4 (width saturation): beyond `L(d)` = total positive indentation + total text length,
the renderer behaves as at unbounded width. -/
namespace Pretty

def docsLen : List Doc → Nat
  | [] => 0
  | d :: ds => d.tlen + docsLen ds
def cmdsLen : List Cmd → Nat
  | [] => 0
  | c :: cs => c.doc.tlen + cmdsLen cs
def cmdsNsum : List Cmd → Nat
  | [] => 0
  | c :: cs => c.doc.nsum + cmdsNsum cs
def cmdsInd : List Cmd → Nat
  | [] => 0
  | c :: cs => max c.ind (cmdsInd cs)

/-- With enough room `fitting` never fails for width. -/
theorem fitting_eq_inf (w pos : Nat) (fcmds : List Doc) (mode : Mode) (rest : List Cmd)
    (h : pos + docsLen fcmds + cmdsLen rest ≤ w) :
    fitting w pos fcmds mode rest = fittingInf fcmds mode rest := by
  fun_induction fitting w pos fcmds mode rest <;> rw [fittingInf] <;>
    simp only [docsLen, cmdsLen, Doc.tlen] at *
  -- the one answer `fittingInf` does not give: a text that ends beyond `w`
  case case6 => omega
  case case8 m _ _ b f ih => have := pick_le Doc.tlen m b f; exact ih (by omega)
  all_goals rename_i ih; exact ih (by omega)

/-- Invariant of the saturation argument: from the furthest column a line can still start at (the
current one, or the indentation of a pending command) all indentation steps and all text still to
come fit.  No step of `best` increases the left side. -/
def J (w pos : Nat) (cmds : List Cmd) : Prop :=
  max pos (cmdsInd cmds) + (cmdsNsum cmds + cmdsLen cmds) ≤ w

/-- Turns `J` into linear facts, so that `omega` need not split on which column is the largest. -/
theorem max_add_le {a b c w : Nat} : max a b + c ≤ w ↔ a + c ≤ w ∧ b + c ≤ w := by omega

theorem addInd_le (i : Nat) (n : Int) : addInd i n ≤ i + n.toNat := by
  unfold addInd; split <;> omega

theorem best_eq_inf (w pos : Nat) (cmds : List Cmd) (h : J w pos cmds) :
    best w pos cmds = bestInf pos cmds := by
  fun_induction best w pos cmds <;> rw [bestInf] <;>
    simp only [J, cmdsInd, cmdsNsum, cmdsLen, Doc.nsum, Doc.tlen, max_add_le] at *
  case case4 m _ b f ih => exact ih (by have := pick_le Doc.tlen m b f; have := pick_le Doc.nsum m b f; omega)
  case case5 pos _ _ rest d _ ih =>
    rw [← fitting_eq_inf w pos [d] .flat rest (by simp only [docsLen]; omega)]
    exact ih (by omega)
  case case6 i _ _ n _ ih => exact ih (by have := addInd_le i n; omega)
  case case9 ih | case10 ih => rw [ih (by omega)]
  all_goals rename_i ih; exact ih (by omega)

/-- **R4**: at any width `w ≥ L(d) = nsum d + tlen d` the renderer behaves as at unbounded width. -/
theorem pretty_saturates (w : Nat) (d : Doc) (h : d.nsum + d.tlen ≤ w) :
    best w 0 [⟨0, .brk, d⟩] = bestInf 0 [⟨0, .brk, d⟩] :=
  best_eq_inf _ _ _ (by simp only [J, cmdsInd, cmdsNsum, cmdsLen]; omega)

end Pretty
