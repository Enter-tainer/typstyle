import TypstyleModel.Model.Printer.Code
/-! Import item ordering (`convert_import_items`): the stable sort is a sorted permutation, leaves a
sorted list as it is, and orders a sub-family exactly as sorting it alone does. -/
namespace Typstyle

variable (key : ANode → String)

theorem insertSorted_perm (x : ANode) (l : List ANode) : (insertSorted key x l).Perm (x :: l) := by
  induction l with
  | nil => exact List.Perm.refl _
  | cons y ys ih =>
    unfold insertSorted
    split
    · exact List.Perm.refl _
    · exact (List.Perm.cons y ih).trans (List.Perm.swap x y ys)

theorem stableSort_perm (l : List ANode) : (stableSort key l).Perm l := by
  induction l with
  | nil => exact List.Perm.refl _
  | cons x xs ih => exact (insertSorted_perm key x _).trans (List.Perm.cons x ih)

theorem importOrder_perm (cfg : PConfig) (nodes : List ANode) : (importOrder cfg nodes).Perm nodes := by
  unfold importOrder
  split
  · exact stableSort_perm _ _
  · exact List.Perm.refl _

/-- Sortedness: no element is followed (anywhere later) by one with a strictly smaller key. -/
def SortedBy (key : ANode → String) (l : List ANode) : Prop := l.Pairwise fun a b => key a ≤ key b

theorem str_le_of_lt {a b : String} (h : a < b) : a ≤ b := String.not_lt.mp (String.lt_asymm h)

theorem insertSorted_sorted (x : ANode) (l : List ANode) (h : SortedBy key l) : SortedBy key (insertSorted key x l) := by
  induction l with
  | nil => simp [insertSorted, SortedBy]
  | cons y ys ih =>
    unfold insertSorted
    have hy := List.pairwise_cons.mp h
    split
    · rename_i hxy
      exact List.pairwise_cons.mpr ⟨List.forall_mem_cons.mpr ⟨hxy, fun z hz => String.le_trans hxy (hy.1 z hz)⟩, h⟩
    · rename_i hnle
      refine List.pairwise_cons.mpr ⟨fun z hz => ?_, ih hy.2⟩
      rcases List.mem_cons.mp ((insertSorted_perm key x ys).mem_iff.mp hz) with rfl | hz'
      · exact (String.le_total _ _).resolve_left hnle
      · exact hy.1 z hz'

theorem stableSort_sorted (l : List ANode) : SortedBy key (stableSort key l) := by
  induction l with
  | nil => exact List.Pairwise.nil
  | cons x xs ih => exact insertSorted_sorted key x _ ih

theorem insertSorted_of_le (x : ANode) (l : List ANode) (h : ∀ y ∈ l, key x ≤ key y) : insertSorted key x l = x :: l := by
  cases l with
  | nil => rfl
  | cons z zs => unfold insertSorted; rw [if_pos (h z List.mem_cons_self)]

/-- In particular elements with equal keys keep their order (stability). -/
theorem stableSort_id_of_sorted (l : List ANode) (h : SortedBy key l) : stableSort key l = l := by
  induction l with
  | nil => rfl
  | cons x xs ih =>
    have hx := List.pairwise_cons.mp h
    show insertSorted key x (stableSort key xs) = x :: xs
    rw [ih hx.2, insertSorted_of_le key x xs hx.1]

theorem stableSort_idem (l : List ANode) : stableSort key (stableSort key l) = stableSort key l :=
  stableSort_id_of_sorted key _ (stableSort_sorted key l)

theorem filter_insertSorted (p : ANode → Bool) (x : ANode) (S : List ANode) (hS : SortedBy key S) :
    (insertSorted key x S).filter p = if p x then insertSorted key x (S.filter p) else S.filter p := by
  induction S with
  | nil => by_cases hp : p x <;> simp [insertSorted, hp]
  | cons y ys ih =>
    have hS' := List.pairwise_cons.mp hS
    by_cases hle : key x ≤ key y
    · -- `x` goes in front, and is at most everything kept from `y :: ys`
      rw [insertSorted, if_pos hle, List.filter_cons, insertSorted_of_le key x _ fun z hz =>
        (List.mem_cons.mp (List.mem_filter.mp hz).1).elim (· ▸ hle) fun hz' => String.le_trans hle (hS'.1 z hz')]
    · rw [insertSorted, if_neg hle, List.filter_cons, ih hS'.2, List.filter_cons]
      by_cases hpy : p y = true <;> by_cases hp : p x = true <;> simp [hpy, hp, insertSorted, hle]

/-- **A stable sort orders a sub-family exactly as sorting it alone does.** -/
theorem filter_stableSort (p : ANode → Bool) (l : List ANode) :
    (stableSort key l).filter p = stableSort key (l.filter p) := by
  induction l with
  | nil => rfl
  | cons x xs ih =>
    show (insertSorted key x (stableSort key xs)).filter p = _
    rw [filter_insertSorted key p x _ (stableSort_sorted key xs), ih, List.filter_cons]
    split <;> rfl

end Typstyle
