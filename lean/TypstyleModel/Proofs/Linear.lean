import TypstyleModel.Model.Printer.Knot
/-! Linearity of the printer (C18): the number of conversion entries is at most four times the
number of nodes, for every tree and configuration. -/
namespace Typstyle

theorem M.calls_le {α : Type} (x : M α) {limit : Nat} {a : α} {s' : St}
    (h : x.run { limit := limit } = .ok (a, s')) : s'.calls ≤ 4 * limit := by
  have hok : ({ limit := limit } : St).OK := ⟨List.nodup_nil, by simp⟩
  obtain ⟨⟨hn, hb⟩, hl⟩ := x.ok _ hok a s' h
  rw [hl] at hb
  -- pigeonhole: the entries are distinct numbers below `4 * limit`
  exact List.length_range (n := 4 * limit) ▸ hn.length_le_of_subset fun x hx => List.mem_range.mpr (hb x hx)

/-- T18.1.  `4`: the entry points `convert_expr`, `convert_pattern`, `convert_markup_impl` and `convert_math`;
no node is converted more than once per entry point. -/
theorem printTwin_linear (e : Env) (root : Node) (d : Twin.Doc) (calls : Nat)
    (h : printTwin e root = .ok (d, calls)) : calls ≤ 4 * (prepare root).size := by
  unfold printTwin at h
  simp only at h
  split at h
  · rename_i d' s hs
    cases h
    exact M.calls_le _ hs
  · cases h

theorem printDoc_linear (cfg : Config) (wd : String → Nat) (root : Node) (d : Pretty.Doc) (calls : Nat)
    (h : printDoc cfg wd root = .ok (d, calls)) : calls ≤ 4 * (prepare root).size := by
  unfold printDoc at h
  split at h
  · rename_i d' calls' hp
    cases h
    exact printTwin_linear _ root _ _ hp
  · cases h

mutual
theorem number_size : (n : ANode) → (k : Nat) → (number n k).1.size = n.size ∧ (number n k).2 = k + n.size
  | .leaf _ _ _, k => by simp [number, ANode.size]
  | .inner kd cs a, k => by
    have := numberL_size cs (k + 1)
    simp only [number, ANode.size]
    omega
theorem numberL_size : (cs : List ANode) → (k : Nat) →
    ANode.sizeL (numberL cs k).1 = ANode.sizeL cs ∧ (numberL cs k).2 = k + ANode.sizeL cs
  | [], k => by simp [numberL, ANode.sizeL]
  | c :: cs, k => by
    have h1 := number_size c k
    have h2 := numberL_size cs (number c k).2
    simp only [numberL, ANode.sizeL]
    omega
end

end Typstyle
