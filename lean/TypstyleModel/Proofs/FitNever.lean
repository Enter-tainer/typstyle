import TypstyleModel.Model.Stylist.List
/-! T3.2 (C03): between the delimiters, a list laid out with `FoldStyle::Fit` whose group is *broken* is,
atom for atom, the list laid out with `FoldStyle::Never` (how the second pass reads a list that did not
fit); with the delimiters, every `Never` layout is a `Fit` layout.
Stated on the languages of broken-mode layouts: `L d = { xs | Lay .brk d xs }`. -/
namespace Typstyle
open Pretty (Lay Atom Mode)

/-! `print_doc`, one equation per fold style; the style it works with is
`if s.hasLineComment then .never else s.fold`. -/
section
variable (e : Env) (s : LS) (sty : ListStyle)

theorem LS.print_empty (he : s.items.isEmpty = true) :
    s.print e sty = if sty.omitDelimEmpty then .nil else if sty.addDelimSpace then (sty.d0 ++ Twin.space) ++ sty.d1
      else sty.d0 ++ sty.d1 := by
  rw [LS.print, if_pos he]

variable (he : s.items.isEmpty = false)
include he

theorem LS.print_never (hf : (if s.hasLineComment then Fold.never else s.fold) = .never) :
    s.print e sty =
      let inner := (s.items.foldl (neverStep sty s.items.length) (if sty.tightDelim then .nil else Twin.hardline, 0)).1
      (if !sty.noIndent then inner.nstTab else inner).enclose sty.d0 sty.d1 := by
  simp only [LS.print, he, hf, Bool.false_eq_true, if_false]

theorem LS.print_always (hf : (if s.hasLineComment then Fold.never else s.fold) = .always) :
    s.print e sty =
      let trailing := sty.addTrailingSepAlways || (s.realCount == 1 && sty.addTrailingSepSingle)
      let inner := (s.items.foldl (alwaysStep sty s.items.length s.realCount trailing) (.nil, 0, 0)).1.grp
      if (s.realCount == 1 && sty.omitDelimSingle) || sty.omitDelimFlat then inner
      else if sty.addDelimSpace then (inner.enclose Twin.space Twin.space).enclose sty.d0 sty.d1
      else inner.enclose sty.d0 sty.d1 := by
  simp only [LS.print, he, hf, Bool.false_eq_true, if_false]

theorem LS.print_fit (hf : (if s.hasLineComment then Fold.never else s.fold) = .fit) :
    s.print e sty =
      let trailing := sty.addTrailingSepAlways || (s.realCount == 1 && sty.addTrailingSepSingle)
      let inner := (s.items.foldl (fitStep sty s.items.length s.realCount trailing) (if sty.tightDelim then .nil else Twin.line_, 0, 0)).1
      let inner := if !sty.noIndent then inner.nstTab else inner
      if s.realCount == 1 && sty.omitDelimSingle then inner.grp
      else if sty.omitDelimFlat then (inner.enclose (Twin.Doc.falt sty.d0 .nil) (Twin.Doc.falt sty.d1 .nil)).grp
      else if sty.addDelimSpace then
        (inner.enclose (Twin.Doc.falt sty.d0 (sty.d0 ++ Twin.space)) (Twin.Doc.falt sty.d1 (Twin.space ++ sty.d1))).grp
      else inner.grp.enclose sty.d0 sty.d1 := by
  simp only [LS.print, he, hf, Bool.false_eq_true, if_false]

end

/-- The broken-mode layouts of a document. -/
def L (d : Pretty.Doc) : List Atom → Prop := fun xs => Lay .brk d xs

/-- Concatenation of layout languages. -/
def cat (A B : List Atom → Prop) : List Atom → Prop := fun xs => ∃ xa xb, xs = xa ++ xb ∧ A xa ∧ B xb

def unit : List Atom → Prop := fun xs => xs = []

theorem cat_assoc (A B C : List Atom → Prop) : cat (cat A B) C = cat A (cat B C) := by
  funext xs; apply propext; constructor
  · rintro ⟨_, xc, rfl, ⟨xa, xb, rfl, ha, hb⟩, hc⟩
    exact ⟨xa, xb ++ xc, List.append_assoc .., ha, xb, xc, rfl, hb, hc⟩
  · rintro ⟨xa, _, rfl, ha, xb, xc, rfl, hb, hc⟩
    exact ⟨xa ++ xb, xc, (List.append_assoc ..).symm, ⟨xa, xb, rfl, ha, hb⟩, hc⟩

theorem cat_unit_right (A : List Atom → Prop) : cat A unit = A := by
  funext xs; apply propext; constructor
  · rintro ⟨xa, _, rfl, ha, rfl⟩; rwa [List.append_nil]
  · exact fun h => ⟨xs, [], (List.append_nil _).symm, h, rfl⟩

theorem cat_unit_left (A : List Atom → Prop) : cat unit A = A := by
  funext xs; apply propext; constructor
  · rintro ⟨_, xb, rfl, rfl, hb⟩; exact hb
  · exact fun h => ⟨[], xs, rfl, rfl, h⟩

theorem L_nil : L .nil = unit := by
  funext xs; apply propext; constructor
  · intro h; cases h; rfl
  · rintro rfl; exact Lay.nil

theorem L_app (a b : Pretty.Doc) : L (a ++ b) = cat (L a) (L b) :=
  funext fun _ => propext Pretty.lay_app_iff

theorem L_falt (b f : Pretty.Doc) : L (Pretty.Doc.falt b f) = L b :=
  funext fun _ => propext ⟨fun h => by cases h with | flatAltB h' => exact h', Lay.flatAltB⟩

theorem L_line (u : Nat) : L (Twin.line.fam u) = L (Twin.hardline.fam u) := L_falt _ _
theorem L_line_ (u : Nat) : L (Twin.line_.fam u) = L (Twin.hardline.fam u) := L_falt _ _

theorem L_nst (d : Pretty.Doc) (n : Nat) : L (d.nst n) = L d :=
  funext fun _ => propext Pretty.lay_nst_iff

theorem L_enclose (d a b : Twin.Doc) (u : Nat) :
    L ((d.enclose a b).fam u) = cat (cat (L (a.fam u)) (L (d.fam u))) (L (b.fam u)) := by
  show L ((a.fam u ++ d.fam u) ++ b.fam u) = _
  rw [L_app, L_app]

theorem L_repeatN_congr {a b : Twin.Doc} {u : Nat} (h : L (a.fam u) = L (b.fam u)) (n : Nat) :
    L ((Twin.repeatN a n).fam u) = L ((Twin.repeatN b n).fam u) := by
  induction n with
  | zero => rfl
  | succ n ih =>
    show L ((Twin.repeatN a n ++ a).fam u) = L ((Twin.repeatN b n ++ b).fam u)
    rw [Twin.fam_app, Twin.fam_app, L_app, L_app, ih, h]

theorem fitStep_neverStep (sty : ListStyle) (ht : sty.tightDelim = false) (count real : Nat) (trailing : Bool) (u : Nat)
    (fa : Twin.Doc × Nat × Nat) (na : Twin.Doc × Nat) (hL : L (fa.1.fam u) = L (na.1.fam u)) (hi : fa.2.1 = na.2) (item : LItem) :
    L ((fitStep sty count real trailing fa item).1.fam u) = L ((neverStep sty count na item).1.fam u) ∧
    (fitStep sty count real trailing fa item).2.1 = (neverStep sty count na item).2 := by
  obtain ⟨fi, i, seen⟩ := fa
  obtain ⟨ni, j⟩ := na
  subst hi
  cases item with
  | comment c =>
    simp only [fitStep, neverStep, ht, Bool.and_false, Bool.false_eq_true, ↓reduceIte, Twin.fam_app, L_app, hL, and_self]
  | linebreak n =>
    simp only [fitStep, neverStep, Twin.fam_app, L_app, hL, L_repeatN_congr (L_line u) n, and_true]
  | commented body after =>
    -- whichever alternative `Fit` chooses for separator and line break, broken it is what `Never` prints
    cases after <;>
      simp only [fitStep, neverStep, optDoc, ht, Bool.not_false, Bool.true_or, ↓reduceIte, Bool.and_false, Bool.false_eq_true,
        apply_ite (Twin.Doc.fam · u), apply_ite L, Twin.fam_app, Twin.fam_falt, Twin.fam_nil, L_app, L_falt, L_nil, L_line, L_line_,
        ite_self, hL, cat_unit_right, cat_assoc, and_true]

theorem fit_body_eq_never_body (sty : ListStyle) (ht : sty.tightDelim = false) (count real : Nat) (trailing : Bool)
    (items : List LItem) (u : Nat) :
    let fitInner := (items.foldl (fitStep sty count real trailing) (Twin.line_, 0, 0)).1
    let neverInner := (items.foldl (neverStep sty count) (Twin.hardline, 0)).1
    L ((if !sty.noIndent then fitInner.nstTab else fitInner).fam u) = L ((if !sty.noIndent then neverInner.nstTab else neverInner).fam u) := by
  intro fitInner neverInner
  have h : L (fitInner.fam u) = L (neverInner.fam u) :=
    (List.foldl_rel (r := fun fa na => L (fa.1.fam u) = L (na.1.fam u) ∧ fa.2.1 = na.2) ⟨L_line_ u, rfl⟩
      fun item _ fa na h => fitStep_neverStep sty ht count real trailing u fa na h.1 h.2 item).1
  split
  · rw [Twin.fam_nstTab, Twin.fam_nstTab, L_nst, L_nst, h]
  · exact h

/-- Whichever way `Fit` puts the delimiters (plain, or as the broken alternative of a `flat_alt`, inside or
outside the group), a broken layout of `d0 body d1` is a layout. -/
theorem fit_delims_of_never (sty : ListStyle) (u : Nat) (xs : List Atom) {fi ni : Twin.Doc}
    (hb : L (fi.fam u) = L (ni.fam u)) (h : L ((ni.enclose sty.d0 sty.d1).fam u) xs) :
    L ((if sty.omitDelimFlat then (fi.enclose (Twin.Doc.falt sty.d0 .nil) (Twin.Doc.falt sty.d1 .nil)).grp
        else if sty.addDelimSpace then
          (fi.enclose (Twin.Doc.falt sty.d0 (sty.d0 ++ Twin.space)) (Twin.Doc.falt sty.d1 (Twin.space ++ sty.d1))).grp
        else fi.grp.enclose sty.d0 sty.d1).fam u) xs := by
  rw [L_enclose, ← hb] at h
  have hfalt : ∀ a b, L ((fi.enclose (Twin.Doc.falt sty.d0 a) (Twin.Doc.falt sty.d1 b)).grp.fam u) xs := fun a b =>
    Pretty.lay_grp_intro (show L _ xs by rw [L_enclose, Twin.fam_falt, Twin.fam_falt, L_falt, L_falt]; exact h)
  split
  · exact hfalt _ _
  · split
    · exact hfalt _ _
    · rw [L_enclose]
      obtain ⟨_, x1, rfl, ⟨x0, xi, rfl, h0, hi⟩, h1⟩ := h
      exact ⟨_, x1, rfl, ⟨x0, xi, rfl, h0, Pretty.lay_grp_intro hi⟩, h1⟩

theorem never_layouts_are_fit_layouts (e : Env) (s : LS) (sty : ListStyle) (ht : sty.tightDelim = false)
    (hs : (s.realCount == 1 && sty.omitDelimSingle) = false) (hlc : s.hasLineComment = false) (u : Nat) (xs : List Atom)
    (h : L (({ s with fold := .never }).print e sty |>.fam u) xs) : L (({ s with fold := .fit }).print e sty |>.fam u) xs := by
  by_cases he : s.items.isEmpty = true
  · rwa [LS.print_empty e { s with fold := .fit } sty he, ← LS.print_empty e { s with fold := .never } sty he]
  · rw [Bool.not_eq_true] at he
    rw [LS.print_never e { s with fold := .never } sty he (ite_self _)] at h
    rw [LS.print_fit e { s with fold := .fit } sty he (if_neg (hlc ▸ Bool.false_ne_true))]
    simp only [ht, hs, Bool.false_eq_true, if_false] at h ⊢
    exact fit_delims_of_never sty u xs (fit_body_eq_never_body sty ht _ _ _ _ u) h

theorem neverStep_appends (sty : ListStyle) (count : Nat) (u : Nat) (acc : Twin.Doc × Nat) (item : LItem) :
    ∃ D, L ((neverStep sty count acc item).1.fam u) = cat (L (acc.1.fam u)) D := by
  obtain ⟨inner, i⟩ := acc
  cases item with
  | comment c => exact ⟨_, by simp only [neverStep, Twin.fam_app, L_app]; rfl⟩
  | linebreak n => exact ⟨_, by simp only [neverStep, Twin.fam_app, L_app]; rfl⟩
  | commented body after =>
    unfold neverStep
    simp only
    split
    · exact ⟨_, by simp only [Twin.fam_app, L_app, cat_assoc]; rfl⟩
    · exact ⟨_, by simp only [Twin.fam_app, L_app]; rfl⟩

theorem never_starts_with_break (sty : ListStyle) (count : Nat) (items : List LItem) (u : Nat) (xs : List Atom)
    (h : L ((items.foldl (neverStep sty count) (Twin.hardline, 0)).1.fam u) xs) : ∃ k rest, xs = Atom.nl k :: rest := by
  -- every step appends, so the hard line break the fold starts with stays in front
  obtain ⟨R, hR⟩ := List.foldlRecOn items (neverStep sty count) (b := (Twin.hardline, 0))
    (motive := fun acc => ∃ R, L (acc.1.fam u) = cat (L Pretty.hardline) R) ⟨unit, by rw [cat_unit_right]; rfl⟩
    fun acc ⟨R, hR⟩ item _ =>
      let ⟨D, hD⟩ := neverStep_appends sty count u acc item
      ⟨cat R D, by rw [hD, hR, cat_assoc]⟩
  rw [hR] at h
  obtain ⟨xa, xb, rfl, ha, _⟩ := h
  cases ha
  exact ⟨_, xb, rfl⟩

end Typstyle
