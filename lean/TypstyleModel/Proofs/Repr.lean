import TypstyleModel.Model.Printer.Markup
/-! `collect_markup_repr`: the line representation keeps every node that is not white space. -/
namespace Typstyle

def isWsNode (n : ANode) : Bool := n.kind == .space || n.kind == .parbreak

/-- All nodes of the representation so far, in order. -/
def reprNodes (acc : List MLine × MLine × Bound) : List ANode := acc.1.flatMap (·.nodes) ++ acc.2.1.nodes

theorem reprStep_nodes (acc : List MLine × MLine × Bound) (node : ANode) :
    ∃ keep : Bool, (keep = false → isWsNode node = true) ∧ (keep = true → node.kind ≠ .parbreak) ∧
      reprNodes (reprStep acc node) = reprNodes acc ++ (if keep then [node] else []) := by
  obtain ⟨lines, cur, sb⟩ := acc
  by_cases h1 : (node.kind == .parbreak) = true
  · exact ⟨false, fun _ => by simp [isWsNode, h1], nofun, by simp [reprStep, reprNodes, h1, List.flatMap_append]⟩
  by_cases h2 : (node.kind == .space && cur.nodes.isEmpty) = true
  · exact ⟨false, fun _ => by simp [isWsNode, (Bool.and_eq_true_iff.mp h2).1], nofun, by simp [reprStep, reprNodes, h1, h2]⟩
  by_cases h3 : (node.kind == .space && hasLinebreak node.text) = true
  · exact ⟨false, fun _ => by simp [isWsNode, (Bool.and_eq_true_iff.mp h3).1], nofun,
      by simp [reprStep, reprNodes, h1, h2, h3, List.flatMap_append]⟩
  · refine ⟨true, nofun, fun _ => by simpa using h1, ?_⟩
    simp only [reprStep, reprNodes, h1, h2, h3, Bool.false_eq_true, ↓reduceIte, List.append_assoc]
    split <;> rfl

/-- The main loop keeps a selection `kept` of the children: all that are not white space, and no paragraph break. -/
theorem repr_nodes (children : List ANode) (acc : List MLine × MLine × Bound) :
    ∃ kept, reprNodes (children.foldl reprStep acc) = reprNodes acc ++ kept ∧
      kept.filter (fun n => !isWsNode n) = children.filter (fun n => !isWsNode n) ∧
      ∀ x ∈ kept, x ∈ children ∧ x.kind ≠ .parbreak := by
  induction children generalizing acc with
  | nil => exact ⟨[], by simp, rfl, nofun⟩
  | cons c cs ih =>
    obtain ⟨keep, h1, h2, h3⟩ := reprStep_nodes acc c
    obtain ⟨kept, k1, k2, k3⟩ := ih (reprStep acc c)
    refine ⟨(if keep then [c] else []) ++ kept, by rw [List.foldl_cons, k1, h3, List.append_assoc], ?_, fun x hx => ?_⟩
    · cases keep
      · simpa [h1 rfl] using k2
      · by_cases hw : isWsNode c = true <;> simp [hw, k2]
    · rcases List.mem_append.mp hx with hx | hx
      · cases keep
        · cases hx
        · rw [List.mem_singleton.mp hx]; exact ⟨List.mem_cons_self, h2 rfl⟩
      · exact ⟨List.mem_cons_of_mem _ (k3 x hx).1, (k3 x hx).2⟩

theorem repr_keeps_every_node (children : List ANode) (acc : List MLine × MLine × Bound) :
    (reprNodes (children.foldl reprStep acc)).filter (fun n => !isWsNode n) =
      (reprNodes acc).filter (fun n => !isWsNode n) ++ children.filter (fun n => !isWsNode n) := by
  obtain ⟨kept, h1, h2, -⟩ := repr_nodes children acc
  rw [h1, List.filter_append, h2]

end Typstyle
