import TypstyleModel.Model.Text
/-! Theorems about `utils::strip_trailing_whitespace` (stage 5), for all strings. -/
namespace Typstyle

theorem splitNl_ne_nil {s : List Char} (h : s ≠ []) : splitNl s ≠ [] := by
  cases s with
  | nil => exact absurd rfl h
  | cons c cs =>
    unfold splitNl
    split
    · nofun
    · split <;> nofun

theorem splitNl_noNl (s : List Char) : ∀ p ∈ splitNl s, '\n' ∉ p.1 := by
  induction s with
  | nil => nofun
  | cons c cs ih =>
    unfold splitNl
    split
    · exact List.forall_mem_cons.mpr ⟨nofun, ih⟩
    · rename_i hne
      cases hs : splitNl cs with
      | nil => simpa using Ne.symm hne
      | cons p rest =>
        rw [hs] at ih
        obtain ⟨hp, hr⟩ := List.forall_mem_cons.mp ih
        exact List.forall_mem_cons.mpr ⟨by simpa using ⟨Ne.symm hne, hp⟩, hr⟩

theorem splitNl_append_nl (l rest : List Char) (h : '\n' ∉ l) :
    splitNl (l ++ '\n' :: rest) = (l, true) :: splitNl rest := by
  induction l with
  | nil => simp [splitNl]
  | cons c cs ih =>
    simp only [List.mem_cons, not_or] at h
    simp only [List.cons_append, splitNl, Ne.symm h.1, if_false, ih h.2]

theorem dropLastCr_cases (l : List Char) : dropLastCr l = l ∨ l = dropLastCr l ++ ['\r'] := by
  unfold dropLastCr
  split
  · rename_i r h
    exact .inr (by simpa using congrArg List.reverse h)
  · exact .inl rfl

theorem mem_dropLastCr {l : List Char} {c : Char} (h : c ∈ dropLastCr l) : c ∈ l := by
  rcases dropLastCr_cases l with e | e
  · exact e ▸ h
  · rw [e]; exact List.mem_append_left _ h

theorem trimEndL_sublist (l : List Char) : (trimEndL l).Sublist l := by
  simpa [trimEndL] using (List.dropWhile_sublist isWs (l := l.reverse)).reverse

theorem linesL_noNl (s : List Char) : ∀ l ∈ linesL s, '\n' ∉ l := by
  intro l hl
  obtain ⟨⟨l, t⟩, hp, rfl⟩ := List.mem_map.mp hl
  have := splitNl_noNl s _ hp
  cases t
  · exact this
  · exact fun h => this (mem_dropLastCr h)

theorem trimEndL_last (l : List Char) (c : Char) (hc : (trimEndL l).getLast? = some c) : isWs c = false := by
  unfold trimEndL at hc
  rw [List.getLast?_reverse] at hc
  simpa [hc] using List.head?_dropWhile_not isWs l.reverse

theorem dropWhile_idem {α : Type} (p : α → Bool) (l : List α) : (l.dropWhile p).dropWhile p = l.dropWhile p := by
  induction l with
  | nil => rfl
  | cons a l ih =>
    rw [List.dropWhile_cons]
    split
    · exact ih
    · rename_i h; rw [List.dropWhile_cons, if_neg h]

theorem dropWhile_filter_not {α : Type} (p : α → Bool) (l : List α) :
    (l.dropWhile p).filter (fun c => !p c) = l.filter (fun c => !p c) := by
  induction l with
  | nil => rfl
  | cons c cs ih =>
    rw [List.dropWhile_cons]
    split
    · rename_i h; rw [ih, List.filter_cons, h]; rfl
    · rfl

theorem trimEndL_idem (l : List Char) : trimEndL (trimEndL l) = trimEndL l := by
  unfold trimEndL
  rw [List.reverse_reverse, dropWhile_idem]

theorem dropLastCr_trimEndL (l : List Char) : dropLastCr (trimEndL l) = trimEndL l :=
  (dropLastCr_cases _).resolve_right fun e => by
    have := trimEndL_last l '\r' (by rw [e, List.getLast?_append]; rfl)
    simp [isWs] at this

/-- The post-pass trims every line of the text, the empty text counting as one empty line. -/
theorem stripL_eq (s : List Char) :
    ∃ ls, ls ≠ [] ∧ (∀ l ∈ ls, '\n' ∉ l) ∧ stripL s = ls.flatMap fun l => trimEndL l ++ ['\n'] := by
  unfold stripL
  split
  · exact ⟨[[]], nofun, by simp, rfl⟩
  · rename_i h
    exact ⟨linesL s, by simpa [linesL] using splitNl_ne_nil h, linesL_noNl s, rfl⟩

theorem splitNl_trimmed (ls : List (List Char)) (h : ∀ l ∈ ls, '\n' ∉ l) :
    splitNl (ls.flatMap fun l => trimEndL l ++ ['\n']) = ls.map fun l => (trimEndL l, true) := by
  induction ls with
  | nil => rfl
  | cons l ls ih =>
    obtain ⟨hl, hls⟩ := List.forall_mem_cons.mp h
    rw [List.flatMap_cons, List.map_cons, List.append_assoc, List.singleton_append,
      splitNl_append_nl _ _ (fun h => hl ((trimEndL_sublist _).subset h)), ih hls]

theorem strip_toList (s : String) : (strip s).toList = stripL s.toList :=
  String.toList_ofList

/-- S2: the result ends with a line feed. -/
theorem stripL_getLast (s : List Char) : (stripL s).getLast? = some '\n' := by
  obtain ⟨ls, hne, -, e⟩ := stripL_eq s
  rw [e, ← List.dropLast_concat_getLast hne, List.flatMap_append, List.flatMap_singleton, ← List.append_assoc,
    List.getLast?_concat]

/-- S1: the result is never empty. -/
theorem stripL_ne_nil (s : List Char) : stripL s ≠ [] :=
  fun h => by simpa [h] using stripL_getLast s

/-- S3: every line of the result is LF-terminated and is empty or ends in a non-blank. -/
theorem stripL_lines (s : List Char) :
    ∀ p ∈ splitNl (stripL s), p.2 = true ∧ ∀ c, p.1.getLast? = some c → isWs c = false := by
  obtain ⟨ls, -, hn, e⟩ := stripL_eq s
  rw [e, splitNl_trimmed ls hn]
  intro p hp
  obtain ⟨l, _, rfl⟩ := List.mem_map.mp hp
  exact ⟨rfl, trimEndL_last l⟩

/-- S4: stripping is idempotent. -/
theorem stripL_idem (s : List Char) : stripL (stripL s) = stripL s := by
  obtain ⟨ls, -, hn, e⟩ := stripL_eq s
  rw [stripL, if_neg (stripL_ne_nil s), e, linesL, splitNl_trimmed ls hn, List.map_map, List.flatMap_map]
  simp only [Function.comp, if_true, dropLastCr_trimEndL, trimEndL_idem]

/-! ### `str::lines` loses only line terminators: a filter that drops `\n` and `\r` does not see the cut -/

theorem splitNl_filter (f : Char → Bool) (hf : f '\n' = false) (s : List Char) :
    (splitNl s).flatMap (fun p => p.1.filter f) = s.filter f := by
  induction s with
  | nil => rfl
  | cons c cs ih =>
    unfold splitNl
    split
    · rename_i hc
      rw [List.flatMap_cons, ih, hc, List.filter_cons, hf]; rfl
    · rw [List.filter_cons, ← ih]
      cases splitNl cs with
      | nil => simp [List.filter_cons]
      | cons p rest => simp only [List.flatMap_cons, List.filter_cons]; split <;> rfl

theorem dropLastCr_filter (f : Char → Bool) (hf : f '\r' = false) (l : List Char) :
    (dropLastCr l).filter f = l.filter f := by
  rcases dropLastCr_cases l with e | e
  · rw [e]
  · conv => rhs; rw [e]
    simp [hf]

theorem linesL_filter (f : Char → Bool) (hn : f '\n' = false) (hr : f '\r' = false) (s : List Char) :
    (linesL s).flatMap (fun l => l.filter f) = s.filter f := by
  rw [← splitNl_filter f hn s, linesL, List.flatMap_map]
  congr 1
  funext ⟨l, t⟩
  cases t <;> simp [dropLastCr_filter f hr]

/-- S5a: characters that are not white space are neither added, dropped nor reordered. -/
theorem trimEndL_filter (l : List Char) :
    (trimEndL l).filter (fun c => !isWs c) = l.filter (fun c => !isWs c) := by
  rw [trimEndL, List.filter_reverse, dropWhile_filter_not, ← List.filter_reverse, List.reverse_reverse]

end Typstyle
