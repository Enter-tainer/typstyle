import TypstyleModel.Model.Cli
/-! Each loop body (`manyStep` for a file list, `allStep` for `format-all`) is specified once, in every
mode, by what it does to the file tree, to standard output, to the "changed" status and to the error
count; the loops are folds of the bodies, so what a loop does to these four follows from the specification
of its body, and the statements about `run` are read off. -/
namespace Typstyle.Cli

/-- The file differs from its formatted form. -/
def Differs (lib : Lib) (a : Args) (c : Content) : Prop :=
  ∃ x y, c = .text x ∧ lib a.style x = some y ∧ y ≠ x

instance (lib : Lib) (a : Args) (c : Content) : Decidable (Differs lib a c) := by
  unfold Differs
  cases c with
  | binary => exact isFalse (by rintro ⟨x, y, h, _⟩; cases h)
  | text s =>
    cases h : lib a.style s with
    | none => exact isFalse (by rintro ⟨x, y, hx, hy, _⟩; cases hx; rw [h] at hy; cases hy)
    | some y =>
      if hne : y = s then exact isFalse (by rintro ⟨x, y', hx, hy, hn⟩; cases hx; rw [h] at hy; cases hy; exact hn hne)
      else exact isTrue ⟨s, y, rfl, h, hne⟩

theorem differs_text {lib : Lib} {a : Args} {x : String} :
    Differs lib a (.text x) ↔ ∃ y, lib a.style x = some y ∧ y ≠ x :=
  ⟨fun ⟨_, y, hx, h⟩ => by cases hx; exact ⟨y, h⟩, fun ⟨y, h⟩ => ⟨x, y, rfl, h⟩⟩

theorem not_differs_binary {lib : Lib} {a : Args} : ¬ Differs lib a .binary := nofun

def outsOf (evs : List Ev) : List String := evs.filterMap fun | .out s => some s | _ => none

@[simp] theorem outsOf_append (a b : List Ev) : outsOf (a ++ b) = outsOf a ++ outsOf b := by
  simp [outsOf, List.filterMap_append]
@[simp] theorem outsOf_infoEv (a : Args) (s : String) : outsOf (infoEv a s) = [] := by
  unfold infoEv; split <;> rfl
@[simp] theorem outsOf_debugEv (a : Args) (s : String) : outsOf (debugEv a s) = [] := by
  unfold debugEv; split <;> rfl
@[simp] theorem outsOf_warnEv (a : Args) : outsOf (warnEv a) = [] := by
  unfold warnEv; split <;> rfl
@[simp] theorem outsOf_out (s : String) (evs : List Ev) : outsOf (.out s :: evs) = s :: outsOf evs := rfl
@[simp] theorem outsOf_error : outsOf [.error] = [] := rfl
@[simp] theorem outsOf_nil : outsOf [] = [] := rfl

/-- The per-file effect of `--inplace` on the file tree. -/
def inplaceStep (lib : Lib) (a : Args) (w : Entry) (p : Path) : Entry :=
  match readToString w p with
  | some x =>
    (match lib a.style x with
     | some y => if y = x then w else w.write p y
     | none => w)
  | none => w

section
variable (lib : Lib) (a : Args)

theorem manyStep_spec (acc : ManySt) (p : Path) :
    (manyStep lib a acc p).st.world = (if a.inplace then inplaceStep lib a acc.st.world p else acc.st.world) ∧
    outsOf (manyStep lib a acc p).st.evs = outsOf acc.st.evs ++
      (if a.inplace || a.check then [] else ((readToString acc.st.world p).map fun x => (lib a.style x).getD x).toList) ∧
    (manyStep lib a acc p).changed = (acc.changed || match readToString acc.st.world p with
      | some x => decide (Differs lib a (.text x))
      | none => false) ∧
    (manyStep lib a acc p).errors = acc.errors + (if (readToString acc.st.world p).isNone then 1 else 0) := by
  unfold manyStep formatOne inplaceStep
  simp only [getInput]
  cases readToString acc.st.world p with
  | none => simp
  | some x =>
    simp only [formatDebug, differs_text]
    cases h : lib a.style x with
    | none => cases a.inplace <;> cases a.check <;> simp [h]
    | some y => by_cases hy : y = x <;> cases a.inplace <;> cases a.check <;> simp [h, hy]

theorem foldl_manyStep_readonly (hi : a.inplace = false) (w : Entry)
    (ps : List Path) (acc : ManySt) (hw : acc.st.world = w) :
    (ps.foldl (manyStep lib a) acc).st.world = w ∧
    outsOf (ps.foldl (manyStep lib a) acc).st.evs =
      outsOf acc.st.evs ++ (if a.check then [] else ps.filterMap (fun p => (readToString w p).map fun x => (lib a.style x).getD x)) ∧
    (ps.foldl (manyStep lib a) acc).changed =
      (acc.changed || ps.any fun p => match readToString w p with
        | some x => decide (Differs lib a (.text x))
        | none => false) ∧
    (ps.foldl (manyStep lib a) acc).errors = acc.errors + (ps.filter fun p => (readToString w p).isNone).length := by
  induction ps generalizing acc with
  | nil => simp [hw]
  | cons p ps ih =>
    obtain ⟨s1, s2, s3, s4⟩ := manyStep_spec lib a acc p
    rw [hi, hw] at s1 s2
    rw [hw] at s3 s4
    obtain ⟨i1, i2, i3, i4⟩ := ih (manyStep lib a acc p) s1
    rw [List.foldl_cons, i2, i3, i4, s2, s3, s4, List.filterMap_cons, List.any_cons, List.filter_cons]
    refine ⟨i1, ?_, by rw [Bool.or_assoc], ?_⟩
    · cases a.check <;> cases readToString w p <;> simp
    · cases readToString w p <;> simp <;> omega

theorem foldl_manyStep_inplace (hi : a.inplace = true) (ps : List Path) (acc : ManySt) :
    (ps.foldl (manyStep lib a) acc).st.world = ps.foldl (inplaceStep lib a) acc.st.world ∧
    outsOf (ps.foldl (manyStep lib a) acc).st.evs = outsOf acc.st.evs :=
  ⟨(List.foldl_hom (fun s : ManySt => s.st.world) (g₁ := manyStep lib a) (g₂ := inplaceStep lib a) fun s p => by
      rw [(manyStep_spec lib a s p).1, if_pos hi]).symm,
    List.foldlRecOn ps _ (motive := fun s : ManySt => outsOf s.st.evs = outsOf acc.st.evs) rfl fun s hs p _ => by
      rw [(manyStep_spec lib a s p).2.1, hs, hi]; exact List.append_nil _⟩

end

mutual
/-- Specification of eligibility for `format-all`: regular files with extension `typ` that are
not hidden and not inside a hidden sub-directory, in visiting order; the directory the walk starts
from (depth 0) may be called anything; symbolic links are never followed. -/
def eligibleFiles : Entry → Path → String → Nat → List (Path × Content)
  | .file c _, p, name, depth =>
    if depth > 0 && isHidden name then [] else if hasTypExt name then [(p, c)] else []
  | .symlink, _, _, _ => []
  | .dir es, p, name, depth =>
    if depth > 0 && isHidden name then [] else eligibleFilesL es p (depth + 1)
def eligibleFilesL : List (String × Entry) → Path → Nat → List (Path × Content)
  | [], _, _ => []
  | (n, e) :: r, p, depth => eligibleFiles e (p ++ [n]) n depth ++ eligibleFilesL r p depth
end

def allStep (lib : Lib) (a : Args) (acc : AllSt) (f : Path × Content) : AllSt := allFile lib a acc f.1 f.2

mutual
theorem walk_eq_fold (lib : Lib) (a : Args) (acc : AllSt) (p : Path) (name : String) (depth : Nat) :
    (e : Entry) → walk lib a acc p name depth e = (eligibleFiles e p name depth).foldl (allStep lib a) acc
  | .file c t => by
    unfold walk eligibleFiles
    split
    · rfl
    · split <;> rfl
  | .symlink => by unfold walk eligibleFiles; rfl
  | .dir es => by
    unfold walk eligibleFiles
    split
    · rfl
    · exact walkL_eq_fold lib a acc p (depth + 1) es
theorem walkL_eq_fold (lib : Lib) (a : Args) (acc : AllSt) (p : Path) (depth : Nat) :
    (es : List (String × Entry)) → walkL lib a acc p depth es = (eligibleFilesL es p depth).foldl (allStep lib a) acc
  | [] => by unfold walkL eligibleFilesL; rfl
  | (n, e) :: r => by
    unfold walkL eligibleFilesL
    rw [List.foldl_append, ← walk_eq_fold lib a acc (p ++ [n]) n depth e, walkL_eq_fold lib a _ p depth r]
end

/-- The effect of `format-all` (without `--check`) on the file tree for one eligible file. -/
def allWrite (lib : Lib) (a : Args) (w : Entry) (f : Path × Content) : Entry :=
  match f.2 with
  | .binary => w
  | .text x =>
    match lib a.style x with
    | some y => if y = x then w else w.write f.1 y
    | none => w

section
variable (lib : Lib) (a : Args)

theorem allStep_spec (acc : AllSt) (f : Path × Content) :
    (allStep lib a acc f).st.world = (if a.check then acc.st.world else allWrite lib a acc.st.world f) ∧
    outsOf (allStep lib a acc f).st.evs = outsOf acc.st.evs ∧
    (allStep lib a acc f).changed = (acc.changed || decide (Differs lib a f.2)) ∧
    (allStep lib a acc f).errors = acc.errors + (if f.2 = .binary then 1 else 0) := by
  unfold allStep allFile allWrite
  cases f.2 with
  | binary => simp [not_differs_binary]
  | text x =>
    simp only [differs_text]
    cases h : lib a.style x with
    | none => simp
    | some y => by_cases hy : y = x <;> cases a.check <;> simp [hy]

theorem foldl_allStep_spec (fs : List (Path × Content)) (acc : AllSt) :
    (fs.foldl (allStep lib a) acc).st.world = (if a.check then acc.st.world else fs.foldl (allWrite lib a) acc.st.world) ∧
    outsOf (fs.foldl (allStep lib a) acc).st.evs = outsOf acc.st.evs ∧
    (fs.foldl (allStep lib a) acc).changed = (acc.changed || fs.any fun f => decide (Differs lib a f.2)) ∧
    (fs.foldl (allStep lib a) acc).errors = acc.errors + (fs.filter fun f => f.2 = .binary).length := by
  induction fs generalizing acc with
  | nil => simp
  | cons f fs ih =>
    obtain ⟨s1, s2, s3, s4⟩ := allStep_spec lib a acc f
    obtain ⟨i1, i2, i3, i4⟩ := ih (allStep lib a acc f)
    rw [List.foldl_cons, i1, i2, i3, i4, s1, s2, s3, s4, List.foldl_cons, List.any_cons, List.filter_cons]
    refine ⟨by cases a.check <;> rfl, rfl, Bool.or_assoc .., ?_⟩
    cases f.2 <;> simp <;> omega

end

theorem walkL_check_world (lib : Lib) (a : Args) (hc : a.check = true) (acc : AllSt) (p : Path)
    (depth : Nat) : (es : List (String × Entry)) → (walkL lib a acc p depth es).st.world = acc.st.world := by
  intro es
  rw [walkL_eq_fold, (foldl_allStep_spec lib a _ acc).1, if_pos hc]

/-- An error count as the exit status sees it. -/
theorem length_filter_pos_iff {α} (p : α → Bool) (l : List α) : (l.filter p).length > 0 ↔ l.any p = true :=
  List.length_filter_pos_iff.trans List.any_eq_true.symm

theorem exit_check (a : Args) (hc : a.check = true) (err diff : Bool) :
    (if err then 1 else exitOf a diff) = if diff || err then 1 else 0 := by
  cases err <;> cases diff <;> simp [exitOf, hc]

section
variable (lib : Lib) (a : Args) (w : Entry)

theorem runFiles_readonly (ps : List Path) (hi : a.inplace = false) :
    (runFiles lib a w ps).world = w ∧
    outsOf (runFiles lib a w ps).evs =
      (if a.check then [] else ps.filterMap (fun p => (readToString w p).map fun x => (lib a.style x).getD x)) ∧
    (runFiles lib a w ps).exit =
      if ps.any (fun p => (readToString w p).isNone) then 1
      else exitOf a (ps.any fun p => match readToString w p with
        | some x => decide (Differs lib a (.text x))
        | none => false) := by
  obtain ⟨h1, h2, h3, h4⟩ := foldl_manyStep_readonly lib a hi w ps { st := { world := w } } rfl
  unfold runFiles
  simp only [h4, Nat.zero_add, length_filter_pos_iff]
  split
  · exact ⟨h1, by simp [h2], rfl⟩
  · exact ⟨h1, by simpa using h2, by simp [h3]⟩

theorem runFiles_inplace (ps : List Path) (hi : a.inplace = true) :
    (runFiles lib a w ps).world = ps.foldl (inplaceStep lib a) w ∧ outsOf (runFiles lib a w ps).evs = [] := by
  obtain ⟨h1, h2⟩ := foldl_manyStep_inplace lib a hi ps { st := { world := w } }
  unfold runFiles
  simp only
  split <;> simp_all

theorem runStdin_spec (input : String) (hi : a.inplace = false) :
    (runStdin lib a w input).world = w ∧
    outsOf (runStdin lib a w input).evs = (if a.check then [] else [(lib a.style input).getD input]) ∧
    (runStdin lib a w input).exit = exitOf a (decide (Differs lib a (.text input))) := by
  unfold runStdin formatOne
  simp only [getInput, formatDebug, hi, differs_text]
  cases h : lib a.style input with
  | none => cases a.check <;> simp
  | some y => by_cases hy : y = input <;> cases a.check <;> simp [hy]

theorem runFormatAll_spec (dir : Option Path) (rootName : String)
    {e : Entry} (he : w.get (dir.getD []) = some e) (fs : List (Path × Content))
    (hfs : fs = eligibleFiles e (dir.getD []) (rootNameOf (dir.getD []) rootName) 0) :
    (runFormatAll lib a w dir rootName).world = (if a.check then w else fs.foldl (allWrite lib a) w) ∧
    outsOf (runFormatAll lib a w dir rootName).evs = [] ∧
    (runFormatAll lib a w dir rootName).exit =
      if fs.any (fun f => decide (f.2 = .binary)) then 1 else exitOf a (fs.any fun f => decide (Differs lib a f.2)) := by
  obtain ⟨h1, h2, h3, h4⟩ := foldl_allStep_spec lib a fs { st := { world := w } }
  unfold runFormatAll
  simp only [he, walk_eq_fold, ← hfs, h4, Nat.zero_add, length_filter_pos_iff]
  split
  · exact ⟨h1, by simp [h2], rfl⟩
  · exact ⟨h1, by simp [h2], by simp [h3]⟩

theorem runFormatAll_missing (dir : Option Path) (rootName : String)
    (he : w.get (dir.getD []) = none) :
    (runFormatAll lib a w dir rootName).world = w ∧ outsOf (runFormatAll lib a w dir rootName).evs = [] := by
  unfold runFormatAll; simp [he]

theorem run_check (rootName : String) (hc : a.check = true) :
    (run lib a w rootName).world = w ∧ outsOf (run lib a w rootName).evs = [] := by
  unfold run
  split
  · exact ⟨rfl, rfl⟩
  · rename_i h
    have hi : a.inplace = false := by simpa [hc] using h
    split
    · rename_i dir _
      cases he : w.get (dir.getD []) with
      | none => exact runFormatAll_missing lib a w dir rootName he
      | some e =>
        obtain ⟨h1, h2, _⟩ := runFormatAll_spec lib a w dir rootName he _ rfl
        exact ⟨by rw [h1, if_pos hc], h2⟩
    · split
      · exact ⟨rfl, rfl⟩
      · obtain ⟨h1, h2, _⟩ := runStdin_spec lib a w _ hi
        exact ⟨h1, by rw [h2, if_pos hc]⟩
    · exact ⟨rfl, rfl⟩
    · obtain ⟨h1, h2, _⟩ := runFiles_readonly lib a w _ hi
      exact ⟨h1, by rw [h2, if_pos hc]⟩

end

theorem lookup_writeL_same (es : List (String × Entry)) (n : String) (p : Path) (s : String) :
    lookup (writeL es n p s) n = (lookup es n).map fun e => e.write p s := by
  induction es with
  | nil => rfl
  | cons h t ih =>
    obtain ⟨k, e⟩ := h
    unfold writeL
    cases hk : k == n <;> simp [hk, lookup, ih]

theorem lookup_writeL_other (es : List (String × Entry)) (n m : String) (p : Path) (s : String) (h : (m == n) = false) :
    lookup (writeL es n p s) m = lookup es m := by
  induction es with
  | nil => rfl
  | cons hd t ih =>
    obtain ⟨k, e⟩ := hd
    unfold writeL
    cases hk : k == n
    · simp [lookup, ih]
    · obtain rfl := beq_iff_eq.mp hk
      simp [lookup, show (k == m) = false by rw [BEq.comm, h]]

theorem readToString_write_same (w : Entry) (p : Path) (s x : String) (h : readToString w p = some x) :
    readToString (w.write p s) p = some s := by
  induction p generalizing w with
  | nil => cases w <;> simp_all [readToString, Entry.write, Entry.get]
  | cons n p ih =>
    cases w with
    | dir es =>
      simp only [readToString, Entry.write, Entry.get, lookup_writeL_same] at h ⊢
      cases hl : lookup es n with
      | none => simp [hl] at h
      | some e => rw [hl] at h; exact ih e h
    | _ => simp [readToString, Entry.get] at h

end Typstyle.Cli
