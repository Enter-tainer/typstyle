import TypstyleModel.Model.Fragment
/-! Telling kinds apart by a class they lie in: the cheap substitute for a case split over all 134 kinds. -/
namespace Typstyle

/-- With `p` a class of kinds (`Kind.isExpr`, `isCommentKind`, `Kind.isKeyword` …) and `k0` a constant, `h0` is `rfl`. -/
theorem Kind.ne_of_class {p : Kind → Bool} {k : Kind} (h : p k = true) {k0 : Kind} (h0 : p k0 = false) : k ≠ k0 :=
  fun e => by rw [e, h0] at h; cases h

theorem Kind.beq_false_of_class {p : Kind → Bool} {k : Kind} (h : p k = true) {k0 : Kind} (h0 : p k0 = false) :
    (k == k0) = false := beq_eq_false_iff_ne.mpr (Kind.ne_of_class h h0)

theorem comment_not_class {p : Kind → Bool} {k : Kind} (h : isCommentKind k = true)
    (h1 : p .lineComment = false) (h2 : p .blockComment = false) : p k = false := by
  simp only [isCommentKind, Bool.or_eq_true, beq_iff_eq] at h
  rcases h with rfl | rfl
  · exact h1
  · exact h2

theorem Kind.isPlainToken_iff (k : Kind) : k.isPlainToken = true ↔
    k.isInnerKind = false ∧ k.isExpr = false ∧ isCommentKind k = false ∧ (k == .space || k == .parbreak) = false ∧
    (k == .refMarker) = false ∧ (k == .bool) = false ∧ (k == .underscore) = false := by
  simp only [Kind.isPlainToken, Bool.and_eq_true, Bool.not_eq_true', and_assoc]

theorem Kind.not_inner_of_plain {k : Kind} (h : k.isPlainToken = true) : k.isInnerKind = false :=
  ((Kind.isPlainToken_iff k).mp h).1

theorem dot_plain : Kind.isPlainToken .dot = true := by decide

/-- Two tables side by side, as one Boolean that is false: it is evaluated only at the kinds where the first table
is not trivial. -/
theorem Kind.keyword_plain (k : Kind) : (k.isKeyword && !(k == .none_ || k == .auto_) && !k.isPlainToken) = false := by
  unfold Kind.isKeyword; split <;> rfl
theorem Kind.fixedText_plain (k : Kind) : (k.fixedText.isSome && !k.isPlainToken) = false := by
  unfold Kind.fixedText; split <;> rfl
theorem Kind.leafTag_expr (k : Kind) : ((leafTag k).isSome && !k.isExpr && !(k == .underscore)) = false := by
  unfold leafTag; split <;> rfl
theorem Kind.fixedTok_plain (k : Kind) : (k.fixedTok.isSome && !k.isPlainToken && !(k == .underscore)) = false := by
  unfold Kind.fixedTok; split <;> rfl
theorem Kind.fixedTok_not_inner (k : Kind) : (k.fixedTok.isSome && k.isInnerKind) = false := by
  unfold Kind.fixedTok; split <;> rfl

theorem Kind.isPlainToken_of_keyword {k : Kind} (hk : k.isKeyword = true) (hn : (k == .none_ || k == .auto_) = false) :
    k.isPlainToken = true := by
  have := Kind.keyword_plain k
  rw [hk, hn] at this; simpa using this

theorem Kind.isPlainToken_of_fixedText {k : Kind} {s : String} (hf : k.fixedText = some s) : k.isPlainToken = true := by
  have := Kind.fixedText_plain k
  rw [hf] at this; simpa using this

theorem Kind.fixedText_noKeep {k : Kind} {s : String} (hf : k.fixedText = some s) :
    s.toList.filter Pretty.keepChar = [] := by
  unfold Kind.fixedText at hf
  split at hf <;> cases hf <;> decide

theorem leafTag_prose (k : Kind) :
    (k == .text || k == .shorthand || k == .smartQuote || k == .escape || k == .link || k == .label)
      = (leafTag k == some .prose || leafTag k == some .plit) := by cases k <;> rfl

theorem leafTag_lit (k : Kind) :
    (k == .str || k == .int || k == .float || k == .numeric || k == .bool || k == .ident || k == .mathIdent
       || k == .escape || k == .link || k == .label) = (leafTag k == some .lit || leafTag k == some .plit) := by
  cases k <;> rfl

theorem leafTag_not_comment_verbatim (k : Kind) : (leafTag k == some .comment || leafTag k == some .verbatim) = false := by
  unfold leafTag; split <;> rfl

theorem ite_true_cases {c : Prop} [Decidable c] {a b : Bool} (h : (if c then a else b) = true) :
    c ∧ a = true ∨ ¬c ∧ b = true := by
  split at h
  · exact .inl ⟨‹_›, h⟩
  · exact .inr ⟨‹_›, h⟩

end Typstyle
