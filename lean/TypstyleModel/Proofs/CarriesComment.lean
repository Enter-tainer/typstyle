import TypstyleModel.Proofs.CarriesFlow
import TypstyleModel.Proofs.CommentStable
import TypstyleModel.Proofs.Strip
/-! T6.2 (C06), for every comment: the document `convert_comment` builds consists of comment text
only and contains exactly the non-blank characters of the comment, in order — whatever the comment's
style (line, block, bullet-aligned, re-aligned), indentation, line endings or characters.  This is the
`CommentOK` premise of the flow and list theorems. -/
namespace Typstyle
open Pretty

def nonws (cs : List Char) : List Char := cs.filter fun c => !isWs c

/-- `str::lines` loses only line terminators. -/
theorem nonws_rlines (text : String) : (rlines text).flatMap (fun l => nonws l.toList) = nonws text.toList := by
  unfold rlines
  rw [List.flatMap_map]
  simpa [nonws] using linesL_filter (fun c => !isWs c) (by decide) (by decide) text.toList

def CommentDoc (d : Doc) (cs : List Char) : Prop := d.commentOnly = true ∧ d.allChars = cs

theorem CommentDoc.nil : CommentDoc Doc.nil [] := ⟨rfl, rfl⟩
theorem CommentDoc.hardline : CommentDoc hardline [] := ⟨rfl, rfl⟩

theorem CommentDoc.app {a b : Doc} {sa sb : List Char} (ha : CommentDoc a sa) (hb : CommentDoc b sb) :
    CommentDoc (a ++ b) (sa ++ sb) := by
  obtain ⟨ga, rfl⟩ := ha
  obtain ⟨gb, rfl⟩ := hb
  show CommentDoc (Doc.app a b) _
  unfold Doc.app
  split
  · exact ⟨gb, by simp [Doc.allChars]⟩
  · exact ⟨ga, by simp [Doc.allChars]⟩
  · exact ⟨by simp [Doc.commentOnly, ga, gb], rfl⟩

theorem CommentDoc.cmt (e : Env) (s : String) : CommentDoc (e.cmt s) (nonws s.toList) := by
  unfold Env.cmt Pretty.mkText
  split
  next h => rw [show s = "" by simpa using h]; exact ⟨rfl, rfl⟩
  next => exact ⟨by simp [Doc.commentOnly], rfl⟩

theorem CommentDoc.nst {d : Doc} {cs : List Char} (h : CommentDoc d cs) (n : Nat) : CommentDoc (d.nst n) cs := by
  unfold Doc.nst
  split
  · exact h
  · split
    · exact h
    · exact ⟨by simpa [Doc.commentOnly] using h.1, h.2⟩

theorem CommentDoc.align {d : Doc} {cs : List Char} (h : CommentDoc d cs) : CommentDoc (.align d) cs := h

/-- Cutting `leading` blanks off a continuation line loses no non-blank character. -/
theorem nonws_cut (leading : Nat) (l : String) (hk : leading ≤ lineKey l) :
    nonws (if l.utf8ByteSize > leading then l.toList.drop leading else []) = nonws l.toList := by
  have hsp : ∀ n cs, nonws (List.replicate n ' ' ++ cs) = nonws cs := by
    intro n cs; induction n with
    | zero => rfl
    | succ n ih => rw [List.replicate_succ, List.cons_append, ← ih]; rfl
  obtain ⟨n, body, _, rfl, ⟨hb, _, hd⟩ | ⟨hb, rfl⟩⟩ := line_cut l leading hk
  · rw [if_pos hb, hd, hsp, sp_toList, hsp]
  · rw [if_neg hb, sp_toList, hsp]

theorem alignStep_ok (e : Env) (leading : Nat) (acc : Doc × Nat) (l : String) {cs : List Char}
    (hk : acc.2 ≠ 0 → leading ≤ lineKey l) (h : CommentDoc acc.1 cs) :
    CommentDoc (alignStep e leading acc l).1 (cs ++ nonws l.toList) := by
  obtain ⟨doc, i⟩ := acc
  unfold alignStep
  simp only
  split
  next => exact h.app (.cmt e l)
  next hi =>
    have hcut := nonws_cut leading l (hk (by simpa using hi))
    have hh : CommentDoc (doc ++ Pretty.hardline) cs := by simpa using h.app .hardline
    split
    next hb =>
      rw [if_pos hb] at hcut
      simpa [hcut] using hh.app (.cmt e (String.ofList (l.toList.drop leading)))
    next hb =>
      rw [if_neg hb] at hcut
      rw [← hcut]; simpa [nonws] using hh

theorem foldl_alignStep_ok (e : Env) (leading : Nat) (ls : List String) (acc : Doc × Nat) {cs : List Char}
    (hk : ∀ l ∈ ls, leading ≤ lineKey l) (h : CommentDoc acc.1 cs) :
    CommentDoc (ls.foldl (alignStep e leading) acc).1 (cs ++ ls.flatMap (fun l => nonws l.toList)) := by
  induction ls generalizing acc cs with
  | nil => simpa using h
  | cons x xs ih =>
    simpa using ih (alignStep e leading acc x) (fun l h => hk l (List.mem_cons_of_mem _ h))
      (alignStep_ok e leading acc x (fun _ => hk x List.mem_cons_self) h)

theorem alignSimpleStep_ok (e : Env) (acc : Doc × Nat) (l : String) {cs : List Char} (h : CommentDoc acc.1 cs) :
    CommentDoc (alignSimpleStep e acc l).1 (cs ++ nonws l.toList) := by
  obtain ⟨doc, i⟩ := acc
  have htrim : nonws (trimStart l).toList = nonws l.toList := by
    rw [trimStart, String.toList_ofList]; exact dropWhile_filter_not isWs _
  unfold alignSimpleStep
  simp only
  rw [← htrim]
  split
  · simpa using (h.app .hardline).app (.cmt e (trimStart l))
  · exact h.app (.cmt e _)

theorem foldl_alignSimpleStep_ok (e : Env) (ls : List String) (acc : Doc × Nat) {cs : List Char} (h : CommentDoc acc.1 cs) :
    CommentDoc (ls.foldl (alignSimpleStep e) acc).1 (cs ++ ls.flatMap (fun l => nonws l.toList)) := by
  induction ls generalizing acc cs with
  | nil => simpa using h
  | cons x xs ih => simpa using ih (alignSimpleStep e acc x) (alignSimpleStep_ok e acc x h)

/-- **Every comment is converted to a document of comment text only that holds exactly the comment's
non-blank characters, in order.** -/
theorem convComment_ok (e : Env) (n : ANode) :
    Post (convComment e n) (fun c => c.d.commentOnly = true ∧ c.d.allChars = nonws n.text.toList) := by
  refine Post.ite (fun _ => Post.pure (CommentDoc.cmt e _)) fun _ => Post.ite (fun _ => ?_) fun _ => Post.rejected
  refine Post.ite (fun _ => Post.pure (CommentDoc.cmt e _)) fun _ => Post.ite (fun _ => Post.pure ?_) fun _ => ?_
  · have h := (foldl_alignSimpleStep_ok e (rlines n.text) (Doc.nil, 0) CommentDoc.nil).nst 1
    rw [List.nil_append, nonws_rlines] at h
    exact h.align
  · unfold alignMultiline
    cases hfl : followLeading n.text with
    | none => exact Post.rejected
    | some leading =>
      refine Post.bind (Q := fun d => CommentDoc d (nonws n.text.toList)) (Post.pure ?_) (fun d hd => Post.pure hd.align)
      rw [followLeading_eq] at hfl
      cases hls : rlines n.text with
      | nil => rw [hls] at hfl; simp [followLeadingLines] at hfl
      | cons first rest =>
        rw [hls] at hfl
        have hlead := (followLeadingLines_cons.mp hfl).2
        have h0 := alignStep_ok e leading (Doc.nil, 0) first (fun h => absurd rfl h) CommentDoc.nil
        have h1 := foldl_alignStep_ok e leading rest _ (fun l hl => hlead ▸ minKey_le_mem rest _ l hl) h0
        rwa [← nonws_rlines n.text, hls]

theorem commentOK (e : Env) : CommentOK e := by
  intro n _
  unfold convCommentT
  refine Post.bind (convComment_ok e n) (fun c hc => Post.pure ⟨hc.1, ?_⟩)
  show ({ cmt := String.ofList c.d.allChars } : Twin.Streams) = commentS n.text
  rw [hc.2]; rfl

end Typstyle
