import TypstyleModel.Proofs.FitNever
import TypstyleModel.Proofs.Monad
import TypstyleModel.Model.Printer.Code
/-! T1.4 (C01): `ListStylist::print_doc` prints both delimiters in **every** layout unless the style
allows leaving them out (`omit_delim_flat`, `omit_delim_single`, `omit_delim_empty`).  Consequence for
`convert_parenthesized`: the parentheses of `( expr )` survive at every width unless the body is a
literal, array, dictionary, destructuring or block without a comment. -/
namespace Typstyle
open Pretty (Lay Atom Mode)

/-- The layout starts with a layout of `a` and ends with a layout of `b`. -/
def Wrapped (a b : Pretty.Doc) (xs : List Atom) : Prop :=
  ∃ m0 m1 x0 mid x1, xs = x0 ++ mid ++ x1 ∧ Lay m0 a x0 ∧ Lay m1 b x1

section
variable {m : Mode} {d a b : Pretty.Doc} {xs : List Atom}

theorem lay_enclose (h : Lay m (d.enclose a b) xs) :
    ∃ xa xd xb, xs = xa ++ xd ++ xb ∧ Lay m a xa ∧ Lay m d xd ∧ Lay m b xb := by
  obtain ⟨_, xb, rfl, h1, hb⟩ := Pretty.lay_app_iff.mp (show Lay m ((a ++ d) ++ b) xs from h)
  obtain ⟨xa, xd, rfl, ha, hd⟩ := Pretty.lay_app_iff.mp h1
  exact ⟨xa, xd, xb, rfl, ha, hd, hb⟩

theorem wrapped_enclose (h : Lay m (d.enclose a b) xs) : Wrapped a b xs :=
  let ⟨xa, xd, xb, e, ha, _, hb⟩ := lay_enclose h
  ⟨m, m, xa, xd, xb, e, ha, hb⟩

/-- Delimiters that carry an optional blank inside (`add_delim_space`). -/
theorem wrapped_enclose_spaced {sp : Pretty.Doc}
    (h : Lay m (d.enclose (Pretty.Doc.falt a (a ++ sp)) (Pretty.Doc.falt b (sp ++ b))) xs) : Wrapped a b xs := by
  obtain ⟨xa, xd, xb, rfl, ha, _, hb⟩ := lay_enclose h
  cases ha with
  | flatAltB ha =>
    cases hb with
    | flatAltB hb => exact ⟨_, _, xa, xd, xb, rfl, ha, hb⟩
  | flatAltF ha =>
    cases hb with
    | flatAltF hb =>
      obtain ⟨xa', xs1, rfl, ha', _⟩ := Pretty.lay_app_iff.mp ha
      obtain ⟨xs2, xb', rfl, _, hb'⟩ := Pretty.lay_app_iff.mp hb
      exact ⟨_, _, xa', xs1 ++ xd ++ xs2, xb', by simp, ha', hb'⟩

end

theorem print_wrapped (e : Env) (s : LS) (sty : ListStyle) (hF : sty.omitDelimFlat = false) (hS : sty.omitDelimSingle = false)
    (hE : sty.omitDelimEmpty = false) (u : Nat) (m : Mode) (xs : List Atom) (h : Lay m ((s.print e sty).fam u) xs) :
    Wrapped (sty.d0.fam u) (sty.d1.fam u) xs := by
  by_cases he : s.items.isEmpty = true
  · simp only [LS.print_empty e s sty he, hE, Bool.false_eq_true, if_false] at h
    split at h
    · exact wrapped_enclose (d := Twin.space.fam u) h
    · obtain ⟨x0, x1, rfl, h1, h2⟩ := Pretty.lay_app_iff.mp h
      exact ⟨_, _, x0, [], x1, by simp, h1, h2⟩
  · rw [Bool.not_eq_true] at he
    cases hf : (if s.hasLineComment then Fold.never else s.fold) with
    | never => rw [LS.print_never e s sty he hf] at h; exact wrapped_enclose h
    | always =>
      simp only [LS.print_always e s sty he hf, hF, hS, Bool.and_false, Bool.or_self, Bool.false_eq_true, if_false] at h
      split at h <;> exact wrapped_enclose h
    | fit =>
      simp only [LS.print_fit e s sty he hf, hF, hS, Bool.and_false, Bool.false_eq_true, if_false] at h
      split at h
      · obtain ⟨_, h'⟩ := Pretty.lay_grp_inv h
        exact wrapped_enclose_spaced h'
      · exact wrapped_enclose h

/-- The body of `( … )` is of a kind whose parentheses `convert_parenthesized` may drop. -/
def parenOmittable (n : ANode) : Bool :=
  match n.children.find? isExpr with
  | some x => x.kind.isLiteral || x.kind == .array || x.kind == .dict || x.kind == .destructuring
      || x.kind == .codeBlock || x.kind == .contentBlock
  | none => true

theorem convParenthesized_keeps_parens (e : Env) (r : Rec) (ctx : Ctx) (n : ANode)
    (hnest : ∀ p, n.children.find? isPattern = some p → (p.kind == .parenthesized && !hasCommentChildren n) = false)
    (hkeep : (parenOmittable n && !hasCommentChildren n) = false) :
    Post (convParenthesized e r ctx n) (fun d => ∀ u m xs, Lay m (d.fam u) xs →
      Wrapped ((e.soft "(").fam u) ((e.soft ")").fam u) xs) := by
  unfold convParenthesized
  cases hp : n.children.find? isPattern with
  | none => exact Post.bind (Q := fun _ => False) (Post.rejected) (fun _ h => h.elim)
  | some p =>
    simp only [childOr, M.pure_bind, hnest p hp, Bool.false_eq_true, if_false]
    exact Post.bind_any fun ls => Post.pure (print_wrapped e ls _ hkeep rfl rfl)

end Typstyle
