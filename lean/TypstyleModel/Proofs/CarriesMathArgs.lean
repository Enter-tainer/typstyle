import TypstyleModel.Proofs.CarriesMath
/-! Named and spread arguments of a call in math mode (`mat(delim: "[", ..xs; 1)`): their children are
converted as a math flow — the value in math mode, what follows a `#` in code mode. -/
namespace Typstyle
open Twin
variable {Q QM : ANode → Prop} (e : Env) (r : Rec)

/-- Children of a named or spread argument in math mode: as in any math flow, and no bare `_`. -/
def okN (Q QM : ANode → Prop) (c : Ctx) (child : ANode) : Prop := okM Q QM c child ∧ child.kind ≠ .underscore

theorem okN_not_pattern (c : Ctx) (child : ANode) (hok : okN Q QM c child) (hx : ¬ isExpr child = true) :
    isPattern child = false := by
  have h2 := hok.1.2
  rw [if_neg hx] at h2
  rw [isPattern, Bool.eq_false_iff.mpr hx, Bool.or_false]
  rcases h2 with h | h | h
  · rw [h]; rfl
  · rw [Kind.beq_false_of_class h (k0 := .underscore) rfl, Kind.beq_false_of_class h (k0 := .destructuring) rfl]; rfl
  · exact absurd h hok.2

theorem namedProducer_okN (hr : RecOK r Q) (hrM : RecOKM r QM) :
    ProducerH (namedProducer e r) specAll (okN Q QM) := fun st c child hok =>
  namedProducer_needs e r hok.1.1 (okM_expr r hr hrM c child hok.1)
    (fun hx hp => absurd hp (Bool.eq_false_iff.mp (okN_not_pattern c child hok hx))) st

theorem spreadProducer_okN (hr : RecOK r Q) (hrM : RecOKM r QM) :
    ProducerH (spreadProducer e r) specAll (okN Q QM) := fun st c child hok =>
  spreadProducer_needs e r hok.1.1 (okM_expr r hr hrM c child hok.1) st

/-- **`convert_named` in math mode.** -/
theorem convNamedM_carries (e : Env) (r : Rec) (hr : RecOK r Q) (hrM : RecOKM r QM) (ctx : Ctx) (hm : ctx.mode = .math)
    (cs : List ANode) (a : Attrs) (hlex : ANode.tokensAreLeavesL cs = true) (hseq : MathSeqOK Q QM false cs)
    (hnu : ∀ c ∈ cs, c.kind ≠ .underscore) :
    Post (convNamed e r ctx (.inner .named cs a)) (fun d => Carries d (specAll (.inner .named cs a))) := by
  rw [specAll_never_verbatim (k := .named) cs a rfl]
  exact flowM_specAllH (namedProducer_okN e r hr hrM) cs hlex (okSeq_and _ ctx cs false (mathSeq_okSeq ctx hm cs false hseq) hnu) false

/-- **`convert_spread` in math mode.** -/
theorem convSpreadM_carries (e : Env) (r : Rec) (hr : RecOK r Q) (hrM : RecOKM r QM) (ctx : Ctx) (hm : ctx.mode = .math)
    (cs : List ANode) (a : Attrs) (hlex : ANode.tokensAreLeavesL cs = true) (hseq : MathSeqOK Q QM false cs)
    (hnu : ∀ c ∈ cs, c.kind ≠ .underscore) :
    Post (convSpread e r ctx (.inner .spread cs a)) (fun d => Carries d (specAll (.inner .spread cs a))) := by
  rw [specAll_never_verbatim (k := .spread) cs a rfl]
  exact flowM_specAllH (spreadProducer_okN e r hr hrM) cs hlex (okSeq_and _ ctx cs false (mathSeq_okSeq ctx hm cs false hseq) hnu) ()

/-- A named or spread argument whose children form a math sequence. -/
def NamedOK (Q QM : ANode → Prop) (child : ANode) : Prop :=
  ∃ k cs a, child = .inner k cs a ∧ (k = .named ∨ k = .spread) ∧ ANode.tokensAreLeavesL cs = true ∧
    MathSeqOK Q QM false cs ∧ ∀ x ∈ cs, x.kind ≠ .underscore

/-- What `convert_args_in_math` may assume of a child it hands to its producer. -/
def okA (Q QM : ANode → Prop) (c : Ctx) (child : ANode) : Prop :=
  (c.mode = .math ∧ NamedOK Q QM child) ∨ okM Q QM c child

theorem mathArgProducer_okA (e : Env) (r : Rec) (hr : RecOK r Q) (hrM : RecOKM r QM) :
    ProducerH (mathArgProducer e r) specAll (okA Q QM) := by
  intro st c child hok
  refine mathArgProducer_of_convArg e r st c child ?_
  rcases hok with ⟨hm, k, cs, a, rfl, hk, hlex, hseq, hnu⟩ | hokM
  · rcases hk with rfl | rfl
    · exact ⟨by rw [ANode.tokensAreLeaves, hlex]; rfl, fun _ => convNamedM_carries e r hr hrM c hm cs a hlex hseq hnu⟩
    · exact ⟨by rw [ANode.tokensAreLeaves, hlex]; rfl, fun _ => convSpreadM_carries e r hr hrM c hm cs a hlex hseq hnu⟩
  · exact ⟨hokM.1, convArg_okM e r hr hrM hokM⟩

end Typstyle
