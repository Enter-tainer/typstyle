import TypstyleModel.Model.Comment
import TypstyleModel.Proofs.Strip
/-! T3.4 (C03): re-aligning an aligned block comment changes nothing.

`align_multiline` strips the common indentation `leading` of the continuation lines and emits
them under `align`, i.e. at the column `col` where the comment starts.  The text that results is
`realigned col leading lines`.  Reading *that* text again (second formatting pass) gives the common
indentation `col`, and stripping it yields exactly the same pieces: the document of the second pass
equals the document of the first.  Likewise for the bullet style (`align_multiline_simple`). -/
namespace Typstyle
open Pretty

abbrev usizeMax : Nat := 2 ^ 64 - 1

/-- Number of leading ASCII spaces of a line. -/
def lead (l : String) : Nat := (l.toList.takeWhile (· == ' ')).length

/-- What `get_follow_leading` takes the minimum of. -/
def lineKey (l : String) : Nat := if lead l == l.length then usizeMax else lead l

def minKey (ls : List String) (init : Nat) : Nat := ls.foldl (fun m l => min m (lineKey l)) init

/-- `get_follow_leading` on the list of lines. -/
def followLeadingLines (ls : List String) : Option Nat :=
  match ls.drop 1 with
  | [] => none
  | rest => some (minKey rest usizeMax)

theorem followLeading_eq (text : String) : followLeading text = followLeadingLines (rlines text) := by
  unfold followLeading followLeadingLines minKey lineKey lead; rfl

theorem followLeadingLines_cons {first : String} {rest : List String} {leading : Nat} :
    followLeadingLines (first :: rest) = some leading ↔ rest ≠ [] ∧ minKey rest usizeMax = leading := by
  cases rest with
  | nil => exact ⟨nofun, fun h => (h.1 rfl).elim⟩
  | cons a b => exact ⟨fun h => ⟨nofun, Option.some.inj h⟩, fun h => congrArg some h.2⟩

/-- The fold of `align_multiline` on the list of lines. -/
def alignLines (e : Env) (leading : Nat) (ls : List String) : Doc :=
  (ls.foldl (alignStep e leading) (Doc.nil, 0)).1

theorem alignMultiline_eq (e : Env) (text : String) (leading : Nat) (h : followLeading text = some leading) :
    alignMultiline e text = pure (alignLines e leading (rlines text)) := by
  unfold alignMultiline; rw [h]; rfl

/-- One continuation line as it is printed at column `col` after `leading` blanks were stripped
(and after the post-pass removed the blanks of a line that holds nothing else). -/
def realign (col leading : Nat) (l : String) : String :=
  if l.utf8ByteSize > leading then String.ofList (List.replicate col ' ' ++ l.toList.drop leading) else ""

/-- The lines of the printed comment. -/
def realigned (col leading : Nat) : List String → List String
  | [] => []
  | first :: rest => first :: rest.map (realign col leading)

/-! Everything the two passes do to a line depends on its shape only: `n` blanks, then a rest that is
empty (a blank line) or starts with another character.  `line_cut` is the one case analysis. -/

def sp (n : Nat) (body : List Char) : String := String.ofList (List.replicate n ' ' ++ body)

def NB (body : List Char) : Prop := body.head? ≠ some ' '

theorem bytes_cons (c : Char) (cs : List Char) :
    (String.ofList (c :: cs)).utf8ByteSize = c.utf8Size + (String.ofList cs).utf8ByteSize := by
  rw [String.ofList_cons, String.utf8ByteSize_append, String.utf8ByteSize_singleton]

theorem bytes_pos_of_ne_nil (cs : List Char) (h : cs ≠ []) : 0 < (String.ofList cs).utf8ByteSize := by
  cases cs with
  | nil => exact absurd rfl h
  | cons c cs => rw [bytes_cons]; have := Char.utf8Size_pos c; omega

theorem sp_toList (n : Nat) (body : List Char) : (sp n body).toList = List.replicate n ' ' ++ body :=
  String.toList_ofList

theorem sp_bytes (n : Nat) (body : List Char) : (sp n body).utf8ByteSize = n + (String.ofList body).utf8ByteSize := by
  unfold sp
  induction n with
  | zero => simp
  | succ n ih =>
    rw [List.replicate_succ, List.cons_append, bytes_cons, ih]
    have : Char.utf8Size ' ' = 1 := by decide
    omega

theorem sp_drop {k n : Nat} (body : List Char) (h : k ≤ n) :
    (sp n body).toList.drop k = List.replicate (n - k) ' ' ++ body := by
  rw [sp_toList, List.drop_append, List.drop_replicate, List.length_replicate, Nat.sub_eq_zero_of_le h, List.drop_zero]

theorem sp_length (n : Nat) (body : List Char) : (sp n body).length = n + body.length := by
  simp [sp, String.length_ofList]

theorem lead_sp (n : Nat) (body : List Char) (hb : NB body) : lead (sp n body) = n := by
  unfold lead
  rw [sp_toList]
  induction n with
  | zero =>
    cases body with
    | nil => rfl
    | cons c cs =>
      have : c ≠ ' ' := fun h => hb (by rw [h]; rfl)
      simp [this]
  | succ n ih => simpa [List.replicate_succ] using ih

theorem lineKey_sp (n : Nat) (body : List Char) (hb : NB body) :
    lineKey (sp n body) = if body = [] then usizeMax else n := by
  unfold lineKey
  rw [lead_sp n body hb]
  cases body <;> simp [sp_length]

theorem line_shape (l : String) : ∃ n body, NB body ∧ l = sp n body := by
  refine ⟨(l.toList.takeWhile (· == ' ')).length, l.toList.dropWhile (· == ' '), ?_, ?_⟩
  · intro h
    have := List.head?_dropWhile_not (· == ' ') l.toList
    rw [h] at this
    simp at this
  · apply String.ext
    rw [sp_toList]
    generalize l.toList = cs
    induction cs with
    | nil => rfl
    | cons c cs ih => by_cases h : c = ' ' <;> simp [h, List.replicate_succ, ← ih]

/-- `leading` blanks are cut off a line whose key allows it: either the line is longer than `leading` —
then it has at least `leading` blanks, and the remaining blanks and the rest are left — or nothing is
left of it, and it was a blank line. -/
theorem line_cut (l : String) (leading : Nat) (hk : leading ≤ lineKey l) :
    ∃ n body, NB body ∧ l = sp n body ∧
      ((l.utf8ByteSize > leading ∧ leading ≤ n ∧ l.toList.drop leading = List.replicate (n - leading) ' ' ++ body) ∨
       (¬ l.utf8ByteSize > leading ∧ body = [])) := by
  obtain ⟨n, body, hb, rfl⟩ := line_shape l
  refine ⟨n, body, hb, rfl, ?_⟩
  rw [lineKey_sp n body hb] at hk
  rw [sp_bytes]
  by_cases hnil : body = []
  · subst hnil
    by_cases h : n > leading
    · exact .inl ⟨by simpa using h, Nat.le_of_lt h, sp_drop _ (Nat.le_of_lt h)⟩
    · exact .inr ⟨by simpa using h, rfl⟩
  · rw [if_neg hnil] at hk
    have := bytes_pos_of_ne_nil body hnil
    exact .inl ⟨by omega, hk, sp_drop _ hk⟩

theorem realign_sp (col leading n : Nat) (body : List Char) (hb : (sp n body).utf8ByteSize > leading)
    (hd : (sp n body).toList.drop leading = List.replicate (n - leading) ' ' ++ body) :
    realign col leading (sp n body) = sp (col + (n - leading)) body := by
  unfold realign
  rw [if_pos hb, hd, ← List.append_assoc, List.replicate_append_replicate]; rfl

theorem realign_short (col leading : Nat) (l : String) (hb : ¬ l.utf8ByteSize > leading) : realign col leading l = "" :=
  if_neg hb

/-- `hc`: the second pass cuts at the column the comment was printed at — or anywhere, if nothing of
the line was left. -/
theorem alignStep_realign (e : Env) (col col' leading : Nat) (acc : Doc × Nat) (l : String) (hi : acc.2 ≠ 0)
    (hk : leading ≤ lineKey l) (hc : col' = col ∨ ¬ l.utf8ByteSize > leading) :
    alignStep e col' acc (realign col leading l) = alignStep e leading acc l := by
  obtain ⟨doc, i⟩ := acc
  have hi' : (i == 0) = false := by simpa using hi
  obtain ⟨n, body, hnb, rfl, ⟨hb, hle, hd⟩ | ⟨hb, rfl⟩⟩ := line_cut l leading hk
  · obtain rfl : col' = col := hc.resolve_right (fun h => h hb)
    rw [realign_sp col' leading n body hb hd]
    have hb' : (sp (col' + (n - leading)) body).utf8ByteSize > col' := by rw [sp_bytes] at hb ⊢; omega
    have hd' : (sp (col' + (n - leading)) body).toList.drop col' = List.replicate (n - leading) ' ' ++ body := by
      rw [sp_drop _ (Nat.le_add_right ..), Nat.add_sub_cancel_left]
    simp only [alignStep, hi', hb, hb', hd, hd', Bool.false_eq_true, ↓reduceIte]
  · rw [realign_short col leading _ hb]
    simp [alignStep, hi', hb]

theorem lineKey_realign (col leading : Nat) (l : String) (hk : leading ≤ lineKey l) (hl : l.length < usizeMax) :
    lineKey (realign col leading l) = if lineKey l = usizeMax then usizeMax else col + (lineKey l - leading) := by
  obtain ⟨n, body, hnb, rfl, ⟨hb, hle, hd⟩ | ⟨hb, rfl⟩⟩ := line_cut l leading hk
  · rw [realign_sp col leading n body hb hd, lineKey_sp _ _ hnb, lineKey_sp _ _ hnb]
    by_cases hnil : body = []
    · simp [hnil]
    · have : n ≠ usizeMax := by rw [sp_length] at hl; omega
      simp [hnil, this]
  · rw [realign_short col leading _ hb, lineKey_sp _ _ hnb, show "" = sp 0 [] from rfl, lineKey_sp 0 [] hnb]
    simp

theorem lineKey_le_max (l : String) (hl : l.length < usizeMax) : lineKey l ≤ usizeMax := by
  obtain ⟨n, body, hnb, rfl⟩ := line_shape l
  rw [lineKey_sp n body hnb]
  rw [sp_length] at hl
  split <;> omega

theorem minKey_le_init (ls : List String) (init : Nat) : minKey ls init ≤ init :=
  List.foldlRecOn ls _ (motive := (· ≤ init)) (Nat.le_refl _) fun _ hm _ _ => Nat.le_trans (Nat.min_le_left ..) hm

theorem minKey_le_mem (ls : List String) (init : Nat) (l : String) (h : l ∈ ls) : minKey ls init ≤ lineKey l := by
  obtain ⟨l1, l2, rfl⟩ := List.append_of_mem h
  rw [minKey, List.foldl_append, List.foldl_cons]
  exact Nat.le_trans (minKey_le_init l2 _) (Nat.min_le_right ..)

theorem minKey_attained (ls : List String) (init : Nat) : minKey ls init = init ∨ ∃ l ∈ ls, lineKey l = minKey ls init :=
  List.foldlRecOn ls _ (motive := fun m => m = init ∨ ∃ l ∈ ls, lineKey l = m) (.inl rfl) fun m hm x hx => by
    by_cases hle : m ≤ lineKey x
    · rwa [Nat.min_eq_left hle]
    · exact .inr ⟨x, hx, (Nat.min_eq_right (by omega)).symm⟩

theorem minKey_eq_of (ls : List String) (init v : Nat) (hinit : v ≤ init) (hall : ∀ l ∈ ls, v ≤ lineKey l)
    (hex : init = v ∨ ∃ l ∈ ls, lineKey l = v) : minKey ls init = v := by
  apply Nat.le_antisymm
  · rcases hex with h | ⟨l, hl, hk⟩
    · rw [← h]; exact minKey_le_init ls init
    · rw [← hk]; exact minKey_le_mem ls init l hl
  · rcases minKey_attained ls init with h | ⟨l, hl, hk⟩
    · rw [h]; exact hinit
    · rw [← hk]; exact hall l hl

theorem minKey_realigned (col leading : Nat) (rest : List String) (hlead : minKey rest usizeMax = leading)
    (hlen : ∀ l ∈ rest, l.length < usizeMax) (hcol : col < usizeMax) :
    minKey (rest.map (realign col leading)) usizeMax = if leading = usizeMax then usizeMax else col := by
  have hle : ∀ l ∈ rest, leading ≤ lineKey l := fun l hl => hlead ▸ minKey_le_mem rest _ l hl
  have hkey := fun l hl => lineKey_realign col leading l (hle l hl) (hlen l hl)
  apply minKey_eq_of
  · split <;> omega
  · intro l' hl'
    obtain ⟨l, hl, rfl⟩ := List.mem_map.mp hl'
    have := hle l hl
    have := lineKey_le_max l (hlen l hl)
    rw [hkey l hl]
    split <;> split <;> omega
  · by_cases hm : leading = usizeMax
    · exact .inl (if_pos hm).symm
    · rcases minKey_attained rest usizeMax with h | ⟨l, hl, hk⟩
      · exact absurd (hlead ▸ h) hm
      · refine .inr ⟨realign col leading l, List.mem_map_of_mem hl, ?_⟩
        rw [hkey l hl, hk, hlead, if_neg hm, if_neg hm]; omega

theorem alignStep_snd (e : Env) (leading : Nat) (acc : Doc × Nat) (l : String) :
    (alignStep e leading acc l).2 = acc.2 + 1 := by
  unfold alignStep; split; split <;> rfl

theorem foldl_alignStep_snd (e : Env) (leading : Nat) (ls : List String) (acc : Doc × Nat) :
    (ls.foldl (alignStep e leading) acc).2 = acc.2 + ls.length := by
  induction ls generalizing acc with
  | nil => rfl
  | cons l ls ih => rw [List.foldl_cons, ih, alignStep_snd, List.length_cons]; omega

theorem foldl_alignStep_realign (e : Env) (col col' leading : Nat) (rest : List String) (acc : Doc × Nat) (hi : acc.2 ≠ 0)
    (hk : ∀ l ∈ rest, leading ≤ lineKey l) (hc : col' = col ∨ ∀ l ∈ rest, ¬ l.utf8ByteSize > leading) :
    (rest.map (realign col leading)).foldl (alignStep e col') acc = rest.foldl (alignStep e leading) acc := by
  rw [List.foldl_map]
  exact (List.foldl_rel (r := fun a b => a = b ∧ b.2 ≠ 0) ⟨rfl, hi⟩ fun l hl a b ⟨hab, hb⟩ =>
    ⟨hab ▸ alignStep_realign e col col' leading b l hb (hk l hl) (hc.imp_right (· l hl)),
      alignStep_snd .. ▸ Nat.succ_ne_zero _⟩).1

/-- When every continuation line is blank, `leading` does not matter: nothing is cut out. -/
theorem alignStep_blank (e : Env) (a b : Nat) (acc : Doc × Nat) (hi : acc.2 ≠ 0) :
    alignStep e a acc "" = alignStep e b acc "" := by
  obtain ⟨d, i⟩ := acc
  unfold alignStep
  simp [hi]

theorem alignLines_realigned (e : Env) (col : Nat) (ls : List String) (leading : Nat)
    (h : followLeadingLines ls = some leading) (hlen : ∀ l ∈ ls, l.length < usizeMax) (hcol : col < usizeMax) :
    followLeadingLines (realigned col leading ls) = some (if leading = usizeMax then usizeMax else col) ∧
    alignLines e (if leading = usizeMax then usizeMax else col) (realigned col leading ls) = alignLines e leading ls := by
  cases ls with
  | nil => simp [followLeadingLines] at h
  | cons first rest =>
    obtain ⟨hne, hlead⟩ := followLeadingLines_cons.mp h
    have hlen' : ∀ l ∈ rest, l.length < usizeMax := fun l hl => hlen l (List.mem_cons_of_mem _ hl)
    have hle : ∀ l ∈ rest, leading ≤ lineKey l := fun l hl => hlead ▸ minKey_le_mem _ _ l hl
    constructor
    · exact followLeadingLines_cons.mpr ⟨mt List.map_eq_nil_iff.mp hne, minKey_realigned col leading rest hlead hlen' hcol⟩
    · show (List.foldl (alignStep e _) (Doc.nil, 0) (first :: rest.map (realign col leading))).1
          = (List.foldl (alignStep e leading) (Doc.nil, 0) (first :: rest)).1
      rw [List.foldl_cons, List.foldl_cons]
      -- the first line is printed as it is, whatever is cut off the others
      rw [show alignStep e (if leading = usizeMax then usizeMax else col) (Doc.nil, 0) first
        = alignStep e leading (Doc.nil, 0) first from rfl]
      rw [foldl_alignStep_realign e col _ leading rest _ (alignStep_snd .. ▸ Nat.succ_ne_zero _) hle]
      by_cases hmax : leading = usizeMax
      · -- every continuation line is blank and shorter than `leading`
        refine .inr fun l hl => ?_
        obtain ⟨n, body, hnb, rfl, ⟨hb, hn, _⟩ | ⟨hb, _⟩⟩ := line_cut l leading (hle l hl)
        · have := hlen' _ hl
          rw [sp_length] at this
          omega
        · exact hb
      · exact .inl (if_neg hmax)

theorem trimStartL_spaces (n : Nat) (cs : List Char) : trimStartL (List.replicate n ' ' ++ cs) = trimStartL cs :=
  List.dropWhile_append_of_pos fun c hc => by rw [List.eq_of_mem_replicate hc]; decide

theorem trimStartL_idem (cs : List Char) : trimStartL (trimStartL cs) = trimStartL cs :=
  dropWhile_idem isWs cs

theorem trimStart_sp (n : Nat) (body : List Char) : trimStart (sp n body) = trimStart (String.ofList body) := by
  unfold trimStart; rw [sp_toList, trimStartL_spaces, String.toList_ofList]

theorem trimStart_idem (l : String) : trimStart (trimStart l) = trimStart l := by
  unfold trimStart; rw [String.toList_ofList, trimStartL_idem]

/-- A continuation line of a bullet-style comment as it is printed at column `col` (`hang(1)`). -/
def realignSimple (col : Nat) (l : String) : String :=
  if trimStart l = "" then "" else String.ofList (List.replicate (col + 1) ' ' ++ (trimStart l).toList)

def realignedSimple (col : Nat) : List String → List String
  | [] => []
  | first :: rest => trimStart first :: rest.map (realignSimple col)

theorem trimStart_realignSimple (col : Nat) (l : String) : trimStart (realignSimple col l) = trimStart l := by
  unfold realignSimple
  split
  · rename_i h; rw [h]; rfl
  · show trimStart (sp (col + 1) (trimStart l).toList) = _
    rw [trimStart_sp, String.ofList_toList, trimStart_idem]

theorem alignSimpleStep_congr (e : Env) {acc : Doc × Nat} {l l' : String} (h : trimStart l' = trimStart l) :
    alignSimpleStep e acc l' = alignSimpleStep e acc l := by
  unfold alignSimpleStep; rw [h]

theorem alignSimple_realigned (e : Env) (col : Nat) (ls : List String) :
    (realignedSimple col ls).foldl (alignSimpleStep e) (Doc.nil, 0) = ls.foldl (alignSimpleStep e) (Doc.nil, 0) := by
  cases ls with
  | nil => rfl
  | cons first rest =>
    show List.foldl _ _ (trimStart first :: rest.map (realignSimple col)) = _
    rw [List.foldl_cons, List.foldl_cons, alignSimpleStep_congr e (trimStart_idem first), List.foldl_map]
    exact congrArg (List.foldl · _ rest) (funext fun acc => funext fun l =>
      alignSimpleStep_congr e (trimStart_realignSimple col l))

/-- The test that chooses between the two styles. -/
def bulletStyle (ls : List String) : Bool := (ls.drop 1).all fun l => (trimStart l).startsWith "*"

theorem all_congr_mem {α : Type} (l : List α) (f g : α → Bool) (h : ∀ x ∈ l, f x = g x) : l.all f = l.all g := by
  induction l with
  | nil => rfl
  | cons a l ih =>
    rw [List.all_cons, List.all_cons, h a List.mem_cons_self, ih (fun x hx => h x (List.mem_cons_of_mem _ hx))]

theorem bulletStyle_congr {first first' : String} {rest : List String} {f : String → String}
    (h : ∀ l ∈ rest, trimStart (f l) = trimStart l) : bulletStyle (first' :: rest.map f) = bulletStyle (first :: rest) := by
  show (rest.map f).all _ = rest.all _
  rw [List.all_map]
  exact all_congr_mem _ _ _ fun l hl => congrArg (·.startsWith "*") (h l hl)

theorem bulletStyle_realignedSimple (col : Nat) (ls : List String) : bulletStyle (realignedSimple col ls) = bulletStyle ls := by
  cases ls with
  | nil => rfl
  | cons first rest => exact bulletStyle_congr fun l _ => trimStart_realignSimple col l

theorem trimStart_realign (col leading : Nat) (l : String) (hk : leading ≤ lineKey l) :
    trimStart (realign col leading l) = trimStart l := by
  obtain ⟨n, body, hnb, rfl, ⟨hb, _, hd⟩ | ⟨hb, rfl⟩⟩ := line_cut l leading hk
  · rw [realign_sp col leading n body hb hd, trimStart_sp, trimStart_sp]
  · rw [realign_short col leading _ hb, trimStart_sp]

theorem bulletStyle_realigned (col : Nat) (ls : List String) (leading : Nat)
    (h : followLeadingLines ls = some leading) :
    bulletStyle (realigned col leading ls) = bulletStyle ls := by
  cases ls with
  | nil => rfl
  | cons first rest =>
    exact bulletStyle_congr fun l hl =>
      trimStart_realign col leading l ((followLeadingLines_cons.mp h).2 ▸ minKey_le_mem rest _ l hl)

end Typstyle
