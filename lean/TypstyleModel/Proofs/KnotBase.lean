import TypstyleModel.Proofs.Fragment
import TypstyleModel.Proofs.CarriesMathArgs
import TypstyleModel.Proofs.CarriesImport
import TypstyleModel.Proofs.CarriesDot
/-! The theorems about the constructs ask a few facts of their abstract membership predicate; here these are proved
of `inFrag` / `inFragM`.  The leaves at the expression entry point stand here because both modes share them. -/
namespace Typstyle
open Twin

theorem mathChild_seq {c : ANode} {hh : Bool} (h : mathChildB hh c = true) : MathSeqOK Q QM hh [c] := by
  refine ⟨mathChild_lex h (inFrag_lex c) (inFragM_lex c), ?_, trivial⟩
  unfold mathChildB at h
  by_cases hx : isExpr c = true
  · rw [if_pos hx] at h ⊢
    cases hh <;> exact h
  · rw [if_neg hx] at h ⊢
    simpa only [Bool.and_eq_true, Bool.or_eq_true, beq_iff_eq, or_assoc] using (Bool.and_eq_true_iff.mp h).2

theorem inFragMS_seq (cs : List ANode) : ∀ hh, inFragMS hh cs = true → MathSeqOK Q QM hh cs := by
  induction cs with
  | nil => intro _ _; trivial
  | cons c cs ih =>
    intro hh h
    simp only [inFragMS, Bool.and_eq_true] at h
    have hc := mathChild_seq h.1
    exact ⟨hc.1, hc.2.1, ih _ h.2⟩

theorem inFragMA_okSeq (ctx : Ctx) (hm : ctx.mode = .math) (cs : List ANode) :
    ∀ hh, inFragMA hh cs = true → okSeq (okA Q QM) ctx hh cs := by
  have step : ∀ {hh c}, mathChildB hh c = true → flowTakes c ∨ okA Q QM (ctx.withModeIf .code hh) c := fun h =>
    (mathSeq_okSeq ctx hm [_] _ (mathChild_seq h)).1.imp_right Or.inr
  induction cs with
  | nil => intro _ _; trivial
  | cons c cs ih =>
    intro hh h
    cases c with
    | leaf k t a =>
      simp only [inFragMA, Bool.and_eq_true] at h
      refine ⟨?_, ih _ h.2⟩
      rcases ite_true_cases h.1 with ⟨_, h1⟩ | ⟨_, h1⟩
      · cases h1
      · exact step h1
    | inner k ccs a =>
      simp only [inFragMA, Bool.and_eq_true] at h
      refine ⟨?_, ih _ h.2⟩
      rcases ite_true_cases h.1 with ⟨hk, h1⟩ | ⟨_, h1⟩
      · -- a named or spread argument: its children are a math sequence again
        simp only [Bool.and_eq_true, Bool.not_eq_true'] at h1
        obtain ⟨⟨rfl, hms⟩, hnu⟩ := h1
        exact Or.inr (Or.inl ⟨by simpa [Ctx.withModeIf] using hm, k, ccs, a, rfl, by simpa [ANode.kind] using hk,
          inFragMS_lex false ccs hms, inFragMS_seq ccs false hms, fun x hx => bne_iff_ne.mp (List.all_eq_true.mp hnu x hx)⟩)
      · exact step h1

theorem inFragM_math_inner (c : ANode) (hk : c.kind = .math) (hq : inFragM c = true) :
    (∃ mcs a, c = .inner .math mcs a) ∨ (∃ a, c = .leaf .math "" a) := by
  cases c with
  | leaf k t a => cases hk; exact Or.inr ⟨a, by rw [inFragM_leaf_text hq rfl]⟩
  | inner k mcs a => cases hk; exact Or.inl ⟨mcs, a, rfl⟩

theorem inFragEq_math {cs : List ANode} (h : inFragEq cs = true) {c : ANode} (hc : c ∈ cs) (hk : c.kind = .math) :
    inFragM c = true := by
  induction cs with
  | nil => cases hc
  | cons x xs ih =>
    simp only [inFragEq, Bool.and_eq_true] at h
    rcases List.mem_cons.mp hc with rfl | hc
    · simpa [hk] using h.1
    · exact ih h.2 hc

theorem specAll_math_nil {c : ANode} (hk : c.kind = .math) (hq : inFragM c = true) (hnil : c.children = []) :
    specAll c = {} := by
  rcases inFragM_math_inner c hk hq with ⟨mcs, a, rfl⟩ | ⟨a, rfl⟩
  · cases hnil; exact specAll_inner_nil .math a (by decide)
  · exact specAll_empty_leaf .math a

theorem mathCall_shape {cs : List ANode} {a : Attrs} (hq : inFragM (.inner .funcCall cs a) = true) :
    ∃ callee acs aa, cs = [callee, .inner .args acs aa] ∧ isExpr callee = true ∧ callee.kind ≠ .fieldAccess ∧
      inFragM callee = true ∧ inFragMA false acs = true := by
  rw [inFragM_call, Bool.and_eq_true] at hq
  obtain ⟨hsh, hql⟩ := hq
  unfold mathCallShapeB at hsh
  split at hsh
  · rename_i callee args
    simp only [Bool.and_eq_true, Bool.not_eq_true', beq_eq_false_iff_ne] at hsh
    obtain ⟨⟨hxc, hnf⟩, hargsh⟩ := hsh
    split at hargsh
    · rw [inFragMCallL_cons _ (fun _ _ he => by rw [he] at hxc; cases hxc)] at hql
      simp only [inFragMCallL, Bool.and_eq_true, Bool.and_true] at hql
      exact ⟨callee, _, _, rfl, hxc, hnf, hql⟩
    · cases hargsh
  · cases hsh

theorem funcCall_shape {cs : List ANode} (h : listChildrenOK .funcCall cs = true) :
    ∃ callee args, cs = [callee, args] ∧ chainHeadOK callee = true ∧ args.kind = .args := by
  simp only [listChildrenOK] at h
  split at h
  · exact ⟨_, _, rfl, by simpa using h⟩
  · cases h

theorem dotQ_frag : DotQ Q where
  leaf _ _ _ h := ⟨inFrag_leaf_ne h rfl (by decide), inFrag_leaf_ne h rfl (by decide)⟩
  access _ _ h _ := inFrag_inner h (by decide)
  call cs a h _ := by
    obtain ⟨hs, _, hq⟩ := inFrag_inner h (by decide)
    obtain ⟨callee, args, rfl, hc, hk⟩ := funcCall_shape hs
    exact ⟨callee, args, rfl, hc, hk, inFrag_lex _ (hq _ (.head _)), hq _ (.head _), hq _ (.tail _ (.head _))⟩

theorem binQ_frag : BinQ Q where
  leaf _ _ _ h := inFrag_leaf_ne h rfl (by decide)
  inner _ _ h _ := inFrag_inner h (by decide)

theorem impQ_frag : ImpQ Q where
  inner x hq hi := by
    simp only [isImportItem, Bool.or_eq_true, beq_iff_eq] at hi
    cases x with
    | leaf k t a => rcases hi with h | h <;> exact absurd h (inFrag_leaf_ne hq rfl (by decide))
    | inner k ics ia => exact ⟨ics, ia, rfl, (inFrag_inner hq (by rcases hi with h | h <;> (cases h; decide))).2⟩

theorem importFlattened_frag (cs : List ANode) (hq : inFragL cs = true) : ∀ x ∈ importFlattened cs, inFrag x = true := by
  intro x hx
  unfold importFlattened at hx
  obtain ⟨c, hc, hxc⟩ := List.mem_flatMap.mp hx
  have hcq := inFragL_mem hq (List.mem_of_mem_drop hc)
  split at hxc
  · rename_i hk
    exact inFrag_children_mem hcq (by rw [eq_of_beq hk]; decide) x hxc
  · rw [List.mem_singleton.mp hxc]; exact hcq

theorem importItems_ok {cs : List ANode} (hq : inFragL cs = true)
    (hitems : (importFlattened cs).all (fun x => isImportItem x || isCommentKind x.kind || isIgnorable x) = true) :
    ∀ x ∈ importFlattened cs, importItemOK Q x := by
  intro x hx
  have hqx := importFlattened_frag cs hq x hx
  have := List.all_eq_true.mp hitems x hx
  simp only [Bool.or_eq_true, or_assoc] at this
  exact ⟨inFrag_lex x hqx, hqx, this⟩

theorem specAll_frag_leaf (k : Kind) (t : String) (a : Attrs) (h : k.isFragLeaf = true) :
    specAll (.leaf k t a) = tagS (fragTag k) t := by
  simp only [Kind.isFragLeaf, Bool.and_eq_true] at h
  obtain ⟨tag, hl⟩ := Option.isSome_iff_exists.mp h.1
  rw [specAll_tagged_leaf k t a hl, fragTag, hl]; rfl

section
variable {e : Env} {r : Rec}

theorem fragLeaf_carries (ctx : Ctx) (k : Kind) (t : String) (a : Attrs) (h : k.isFragLeaf = true) :
    Post (if a.disabled = true then pure (e.verbNode (.leaf k t a)) else convExprImpl e r ctx (.leaf k t a))
      (fun d => Carries d (specAll (.leaf k t a))) := by
  have hc : convExprImpl e r ctx (.leaf k t a) = pure (e.verbNode (.leaf k t a)) ∧
      e.verbNode (.leaf k t a) = Twin.mkText e.wd (fragTag k) t := by
    unfold Kind.isFragLeaf leafTag at h
    split at h
    -- the last two arms of `leafTag`: `_` (no expression, so `h` fails) and the kinds without a tag
    rotate_right 2
    · cases h
    · cases h
    all_goals exact ⟨rfl, rfl⟩
  rw [hc.1, ite_self, hc.2, specAll_frag_leaf k t a h]
  exact Post.pure (Carries.mkText e.wd _ t)

/-- The keyword literals `none` and `auto`: printed as the constant (the model checks the leaf's text), or
copied verbatim when marked. -/
theorem keyword_literal_leaf (ctx : Ctx) (k : Kind) (s t : String) (a : Attrs)
    (hk : k = .none_ ∨ k = .auto_) (hs : convExprImpl e r ctx (.leaf k t a) = e.synNode (.leaf k t a) s) :
    Post (if a.disabled = true then pure (e.verbNode (.leaf k t a)) else convExprImpl e r ctx (.leaf k t a))
      (fun d => Carries d (specAll (.leaf k t a))) := by
  have hspec : specAll (.leaf k t a) = tagS (if a.disabled then .verbatim else .tok) t := by
    rcases hk with rfl | rfl <;> rw [specAll_leaf _ t a rfl rfl] <;> cases a.disabled <;> rfl
  refine Post.ite (fun hd => ?_) (fun hd => ?_)
  · have hv : e.verbNode (.leaf k t a) = e.verb t := by rcases hk with rfl | rfl <;> rfl
    rw [hv, hspec, hd]
    exact Post.pure (Carries.mkText e.wd .verbatim t)
  · rw [hs]
    refine synNode_carries s (fun ht => ?_)
    rw [hspec, Bool.eq_false_iff.mpr hd, ← ht]
    exact (tagS_syn_eq_tok t).symm

theorem leaf_expr_frag (ctx : Ctx) (k : Kind) (t : String) (a : Attrs) (hx : k.isExpr = true)
    (hq : inFrag (.leaf k t a) = true) :
    Post (if a.disabled = true then pure (e.verbNode (.leaf k t a)) else convExprImpl e r ctx (.leaf k t a))
      (fun d => Carries d (specAll (.leaf k t a))) := by
  simp only [inFrag, hx, Bool.not_true, Bool.false_or, Bool.and_eq_true, Bool.or_eq_true, Bool.not_eq_true', beq_iff_eq, or_assoc] at hq
  rcases hq.1.2 with h | ⟨rfl, hd⟩ | rfl | rfl
  · exact fragLeaf_carries ctx k t a h
  · rw [hd, specAll_parbreak_leaf]
    exact Post.pure (Carries.repeatN Carries.hardline _)
  · exact keyword_literal_leaf ctx .none_ "none" t a (Or.inl rfl) rfl
  · exact keyword_literal_leaf ctx .auto_ "auto" t a (Or.inr rfl) rfl

end

end Typstyle
