import TypstyleModel.Proofs.Carries
/-! The flow stylist (`convert_flow_like_iter`) carries, in order, what its children contribute —
for every list of children, every producer that honours its contract, every state and context. -/
namespace Typstyle
open Twin

theorem tokensAreLeavesL_iff (cs : List ANode) :
    ANode.tokensAreLeavesL cs = true ↔ ∀ c ∈ cs, ANode.tokensAreLeaves c = true := by
  rw [Bool.allL_eq_all (pL := ANode.tokensAreLeavesL) rfl (fun _ _ => rfl), List.all_eq_true]

theorem tokensAreLeavesL_mem {cs : List ANode} (h : ANode.tokensAreLeavesL cs = true) {c : ANode} (hc : c ∈ cs) :
    ANode.tokensAreLeaves c = true := (tokensAreLeavesL_iff cs).mp h c hc

theorem lexL_append (a b : List ANode) : ANode.tokensAreLeavesL (a ++ b) = (ANode.tokensAreLeavesL a && ANode.tokensAreLeavesL b) :=
  Bool.allL_append rfl (fun _ _ => rfl) a b

theorem lexL_filter (cs : List ANode) (p : ANode → Bool) (h : ANode.tokensAreLeavesL cs = true) :
    ANode.tokensAreLeavesL (cs.filter p) = true :=
  (tokensAreLeavesL_iff _).mpr (fun _ hc => tokensAreLeavesL_mem h (List.mem_filter.mp hc).1)

theorem firstWhere_cons {k : Kind} {c : ANode} {cs : List ANode} {a : Attrs} {p : ANode → Bool} (h : p c = true) :
    firstWhere (.inner k (c :: cs) a) p = some c := by
  simp [firstWhere, ANode.children, h]

theorem lastWhere_concat {k : Kind} {cs : List ANode} {c : ANode} {a : Attrs} {p : ANode → Bool} (h : p c = true) :
    lastWhere (.inner k (cs ++ [c]) a) p = some c := by
  simp [lastWhere, ANode.children, h]

theorem lastWhere_call_args {callee args : ANode} {a : Attrs} (hak : args.kind = .args) :
    lastWhere (.inner .funcCall [callee, args] a) (fun x => x.kind == .args) = some args :=
  lastWhere_concat (cs := [callee]) (by rw [hak]; rfl)

theorem leaf_of_token {c : ANode} (h : ANode.tokensAreLeaves c = true) (hk : c.kind.isInnerKind = false) :
    ∃ t a, c = .leaf c.kind t a := by
  cases c with
  | leaf k t a => exact ⟨t, a, rfl⟩
  | inner k cs a =>
    rw [ANode.tokensAreLeaves, show k.isInnerKind = false from hk] at h
    cases h

theorem leaf_text_fixed {k : Kind} {t : String} {a : Attrs} {s : String}
    (h : ANode.tokensAreLeaves (.leaf k t a) = true) (hf : k.fixedText = some s) : t = s := by
  simp only [ANode.tokensAreLeaves, hf, beq_iff_eq, Bool.and_eq_true] at h; exact h.1

theorem leaf_tok_fixed {k : Kind} {t : String} {a : Attrs} {s : String}
    (h : ANode.tokensAreLeaves (.leaf k t a) = true) (hf : k.fixedTok = some s) : t = s := by
  simp only [ANode.tokensAreLeaves, hf, beq_iff_eq, Bool.and_eq_true] at h; exact h.2

theorem token_eq_leaf {c : ANode} (h : ANode.tokensAreLeaves c = true) (hk : c.kind.isInnerKind = false) :
    c = .leaf c.kind c.text c.attrs := by
  obtain ⟨t, a, hc⟩ := leaf_of_token h hk
  rw [hc]; rfl

theorem token_text_fixedTok {c : ANode} {s : String} (h : ANode.tokensAreLeaves c = true) (hf : c.kind.fixedTok = some s) :
    c.text = s := by
  have hi := Kind.fixedTok_not_inner c.kind
  rw [hf] at hi
  obtain ⟨t, a, hc⟩ := leaf_of_token h hi
  rw [hc] at h hf ⊢
  exact leaf_tok_fixed h hf

theorem specAll_plain (c : ANode) (h : ANode.tokensAreLeaves c = true) (hp : c.kind.isPlainToken = true) :
    specAll c = tagS .tok c.text := by
  rw [token_eq_leaf h (Kind.not_inner_of_plain hp)]; exact specAll_plain_leaf _ _ _ hp

theorem specAll_comment (c : ANode) (h : ANode.tokensAreLeaves c = true) (hc : isCommentKind c.kind = true) :
    specAll c = commentS c.text := by
  rw [token_eq_leaf h (comment_not_class hc rfl rfl)]; exact specAll_comment_leaf _ _ _ hc

theorem specAll_ws (c : ANode) (h : ANode.tokensAreLeaves c = true) (hw : (c.kind == .space || c.kind == .parbreak) = true) :
    specAll c = {} := by
  rw [token_eq_leaf h (by simp only [Bool.or_eq_true, beq_iff_eq] at hw; rcases hw with hk | hk <;> rw [hk] <;> rfl)]
  exact specAll_ws_leaf _ _ _ hw

theorem specAll_space (c : ANode) (h : ANode.tokensAreLeaves c = true) (hk : c.kind = .space) : specAll c = {} :=
  specAll_ws c h (by rw [hk]; rfl)

theorem specAll_parbreak (c : ANode) (h : ANode.tokensAreLeaves c = true) (hk : c.kind = .parbreak) : specAll c = {} :=
  specAll_ws c h (by rw [hk]; rfl)

theorem specAll_fixedTok (c : ANode) (h : ANode.tokensAreLeaves c = true) {s : String} (hf : c.kind.fixedTok = some s) :
    specAll c = tagS .tok s := by
  have ht := token_text_fixedTok h hf
  have hp := Kind.fixedTok_plain c.kind
  rw [hf] at hp
  cases hpl : c.kind.isPlainToken
  · have hu : c.kind = .underscore := by simpa [hpl] using hp
    rw [token_eq_leaf h (by rw [hu]; rfl), hu, ← ht]; exact specAll_tagged_leaf .underscore _ _ rfl
  · rw [specAll_plain c h hpl, ht]

theorem specAll_fixedText (c : ANode) (h : ANode.tokensAreLeaves c = true) {s : String} (hf : c.kind.fixedText = some s) :
    specAll c = {} := by
  have hp := Kind.isPlainToken_of_fixedText hf
  have ht : c.text = s := by
    obtain ⟨t, a, hc⟩ := leaf_of_token h (Kind.not_inner_of_plain hp)
    rw [hc] at h hf ⊢
    exact leaf_text_fixed h hf
  rw [specAll_plain c h hp, ht]
  exact tagS_of_noKeep (.inr (.inr rfl)) s (Kind.fixedText_noKeep hf)

theorem Flow.push_carries {f : Flow} {d : Doc} {s t : Streams} {before after : Bool}
    (hf : Carries f.doc s) (hd : Carries d t) : Carries (f.push d before after).doc (s.app t) := by
  unfold Flow.push
  split
  · simpa using (hf.app Carries.space).app hd
  · exact hf.app hd

theorem Flow.pushComment_carries {f : Flow} {d : Doc} {s t : Streams} {isBlock : Bool}
    (hf : Carries f.doc s) (hd : Carries d t) : Carries (f.pushComment d isBlock).doc (s.app t) := by
  unfold Flow.pushComment
  split
  · exact Flow.push_carries hf hd
  · split
    · exact Flow.push_carries (f := { f with spaceAfter := true }) hf hd
    · exact Flow.push_carries hf hd

/-- The context is not in math mode. -/
def NM (c : Ctx) : Prop := c.mode ≠ .math

theorem NM.withModeIf {c : Ctx} (h : NM c) (b : Bool) : NM (c.withModeIf .code b) := by
  unfold Ctx.withModeIf NM at *; split
  · intro h'; cases h'
  · exact h

theorem NM.withMode {c : Ctx} (m : LMode) (hm : m ≠ .math) : NM (c.withMode m) := hm
theorem NM.suppress {c : Ctx} (h : NM c) : NM c.suppress := h

/-- Contract of a construct's producer closure: what it returns for `child` carries `sem child`
(nothing returned ⇒ `sem child` is empty: nothing is dropped silently). -/
def ProducerS {σ : Type} (producer : σ → Ctx → ANode → M (σ × Option FlowItem)) (sem : ANode → Streams) (ok : ANode → Prop) : Prop :=
  ∀ st c child, NM c → ok child → Post (producer st c child) fun r =>
    match r.2 with
    | some it => Carries it.doc (sem child)
    | none => sem child = {}

/-- The comment converter carries exactly the comment's non-blank characters (proved in `CarriesComment.lean`). -/
def CommentOK (e : Env) : Prop :=
  ∀ n : ANode, isCommentKind n.kind = true → Post (convCommentT e n) (fun d => Carries d (commentS n.text))

/-- What one child of a flow-like node contributes. -/
def flowContribS (sem : ANode → Streams) (c : ANode) : Streams :=
  let k := c.kind
  if k.isKeyword && !(k == .none_ || k == .auto_) then tagS .tok c.text
  else if isCommentKind k then commentS c.text
  else if k == .hash then tagS .tok c.text
  else sem c

def contribL (sem : ANode → Streams) : List ANode → Streams
  | [] => {}
  | c :: cs => (flowContribS sem c).app (contribL sem cs)

/-- Contract of a producer whose obligations depend on the context the flow calls it in. -/
def ProducerH {σ : Type} (producer : σ → Ctx → ANode → M (σ × Option FlowItem)) (sem : ANode → Streams)
    (okc : Ctx → ANode → Prop) : Prop :=
  ∀ st c child, okc c child → Post (producer st c child) fun r =>
    match r.2 with
    | some it => Carries it.doc (sem child)
    | none => sem child = {}

/-- The flow prints this child itself (keyword, comment, `#`): the producer never sees it. -/
def flowTakes (c : ANode) : Prop :=
  (c.kind.isKeyword && !(c.kind == .none_ || c.kind == .auto_)) = true ∨ isCommentKind c.kind = true ∨ c.kind = .hash

/-- Every child that reaches the producer is acceptable in the context the flow converts it in:
the child after a `#` in code mode, every other child in the mode of the construct. -/
def okSeq (okc : Ctx → ANode → Prop) (ctx : Ctx) : Bool → List ANode → Prop
  | _, [] => True
  | hh, c :: cs => (flowTakes c ∨ okc (ctx.withModeIf .code hh) c) ∧ okSeq okc ctx (c.kind == .hash) cs

theorem okSeq_of_forall {okc : Ctx → ANode → Prop} {ctx : Ctx} (l : List ANode)
    (h : ∀ c ∈ l, flowTakes c ∨ ∀ hh, okc (ctx.withModeIf .code hh) c) : ∀ hh, okSeq okc ctx hh l := by
  induction l with
  | nil => intro _; trivial
  | cons x xs ih =>
    exact fun hh => ⟨(h x List.mem_cons_self).imp_right (· hh), ih (fun c hc => h c (List.mem_cons_of_mem _ hc)) _⟩

theorem okSeq_prefix {okc : Ctx → ANode → Prop} (ctx : Ctx) (l1 l2 : List ANode) :
    ∀ hh, okSeq okc ctx hh (l1 ++ l2) → okSeq okc ctx hh l1 := by
  induction l1 with
  | nil => intro _ _; trivial
  | cons x xs ih =>
    intro hh h
    simp only [List.cons_append, okSeq] at h ⊢
    exact ⟨h.1, ih _ h.2⟩

theorem okSeq_drop {okc : Ctx → ANode → Prop} (ctx : Ctx) (pre l : List ANode) (hs : ∀ x ∈ pre, (x.kind == .hash) = false) :
    ∀ hh, okSeq okc ctx hh (pre ++ l) → okSeq okc ctx (if pre.isEmpty then hh else false) l := by
  induction pre with
  | nil => intro hh h; simpa using h
  | cons x xs ih =>
    intro hh h
    simp only [List.cons_append, okSeq] at h
    rw [hs x List.mem_cons_self] at h
    have := ih (fun y hy => hs y (List.mem_cons_of_mem _ hy)) false h.2
    simpa using this

theorem okSeq_and {okc : Ctx → ANode → Prop} (P : ANode → Prop) (ctx : Ctx) (cs : List ANode) :
    ∀ hh, okSeq okc ctx hh cs → (∀ c ∈ cs, P c) → okSeq (fun cc c => okc cc c ∧ P c) ctx hh cs := by
  induction cs with
  | nil => intro _ _ _; trivial
  | cons c cs ih =>
    exact fun hh h hp => ⟨h.1.imp_right (⟨·, hp c List.mem_cons_self⟩), ih _ h.2 (fun x hx => hp x (List.mem_cons_of_mem _ hx))⟩

/-- Children that are acceptable in every context may be put around a sequence: in front if they are
no `#` and there is at least one, behind in any case. -/
theorem okSeq_pad {okc okc' : Ctx → ANode → Prop} {ctx : Ctx} (hmono : ∀ c x, okc c x → okc' c x)
    (x : ANode) (pre l suf : List ANode) (hpre : ∀ y ∈ x :: pre, y.kind ≠ .hash ∧ ∀ c, okc' c y)
    (hsuf : ∀ y ∈ suf, ∀ c, okc' c y) (hl : okSeq okc ctx false l) :
    ∀ hh, okSeq okc' ctx hh (x :: (pre ++ (l ++ suf))) := by
  have h2 : ∀ l hh, okSeq okc ctx hh l → okSeq okc' ctx hh (l ++ suf) := by
    intro l
    induction l with
    | nil => exact fun hh _ => okSeq_of_forall suf (fun c hc => .inr fun _ => hsuf c hc _) hh
    | cons y ys ih => exact fun hh h => ⟨h.1.imp_right (hmono _ y), ih _ h.2⟩
  induction pre generalizing x with
  | nil =>
    have hx := hpre x List.mem_cons_self
    exact fun hh => ⟨.inr (hx.2 _), by rw [beq_false_of_ne hx.1]; exact h2 l false hl⟩
  | cons y ys ih =>
    exact fun hh => ⟨.inr ((hpre x List.mem_cons_self).2 _), ih y (fun z hz => hpre z (List.mem_cons_of_mem _ hz)) _⟩

theorem comment_not_hash {k : Kind} (h : isCommentKind k = true) : (k == .hash) = false :=
  Kind.beq_false_of_class h rfl

theorem flowStepM_carriesH {σ : Type} {e : Env} {ctx : Ctx} {producer : σ → Ctx → ANode → M (σ × Option FlowItem)}
    {sem : ANode → Streams} {okc : Ctx → ANode → Prop}
    (hc : CommentOK e) (hp : ProducerH producer sem okc) (hsp : ∀ cc (c : ANode), okc cc c → c.kind = .space → sem c = {})
    (acc : FSt σ) (s : Streams) (c : ANode) (hok : flowTakes c ∨ okc (ctx.withModeIf .code acc.peekHash) c) (h : Carries acc.flow.doc s) :
    Post (flowStepM e ctx producer acc c)
      (fun acc' => Carries acc'.flow.doc (s.app (flowContribS sem c)) ∧ acc'.peekHash = (c.kind == .hash)) := by
  -- the cases of the step, made before it is unfolded (`split` on the unfolded term is dear)
  by_cases h1 : (c.kind.isKeyword && !(c.kind == .none_ || c.kind == .auto_)) = true
  · simp only [flowStepM, flowContribS, h1, ↓reduceIte]
    exact Post.pure ⟨Flow.push_carries h (Carries.mkText e.wd .tok _), (Kind.beq_false_of_class (Bool.and_eq_true_iff.mp h1).1 rfl).symm⟩
  by_cases h2 : isCommentKind c.kind = true
  · simp only [flowStepM, flowContribS, h1, h2, Bool.false_eq_true, ↓reduceIte]
    exact Post.bind (hc c h2) (fun d hd => Post.pure ⟨Flow.pushComment_carries h hd, (comment_not_hash h2).symm⟩)
  have hok' : c.kind ≠ .hash → okc (ctx.withModeIf .code acc.peekHash) c :=
    fun hnh => hok.resolve_left (fun ht => ht.elim h1 (fun ht => ht.elim h2 hnh))
  by_cases h3 : (acc.peekLC && c.kind == .space && hasLinebreak c.text) = true
  · have hks : c.kind = .space := by
      simp only [Bool.and_eq_true, beq_iff_eq] at h3; exact h3.1.2
    have h4 : (c.kind == Kind.hash) = false := by rw [hks]; rfl
    simp only [flowStepM, flowContribS, h1, h2, h3, h4, hsp _ c (hok' (by rw [hks]; decide)) hks, Bool.false_eq_true, ↓reduceIte]
    exact Post.pure ⟨by simpa using Flow.push_carries (before := false) (after := false) h Carries.hardline, rfl⟩
  by_cases h4 : (c.kind == Kind.hash) = true
  · simp only [flowStepM, flowContribS, h1, h2, h3, h4, Bool.false_eq_true, ↓reduceIte]
    split
    next ht =>
      rw [← tagS_syn_eq_tok, beq_iff_eq.mp ht]
      exact Post.pure ⟨Flow.push_carries h (Carries.mkText e.wd .syn "#"), rfl⟩
    next => exact Post.rejected
  · simp only [flowStepM, flowContribS, h1, h2, h3, h4, Bool.false_eq_true, ↓reduceIte]
    refine Post.bind (hp _ _ _ (hok' (by simpa using h4))) (fun r hr => ?_)
    split
    next it heq =>
      simp only [heq] at hr
      exact Post.pure ⟨Flow.push_carries h hr, rfl⟩
    next heq =>
      simp only [heq] at hr
      exact Post.pure ⟨by simpa [hr] using h, rfl⟩

/-- **The flow stylist carries its children's contributions, in order**, whatever stands after a `#`
being converted in code mode. -/
theorem flowM_carriesH {σ : Type} {e : Env} {ctx : Ctx} {producer : σ → Ctx → ANode → M (σ × Option FlowItem)}
    {sem : ANode → Streams} {okc : Ctx → ANode → Prop}
    (hc : CommentOK e) (hp : ProducerH producer sem okc) (hsp : ∀ cc (c : ANode), okc cc c → c.kind = .space → sem c = {})
    (children : List ANode) (hok : okSeq okc ctx false children) (st : σ) :
    Post (flowM e ctx children st producer) (fun d => Carries d (contribL sem children)) := by
  unfold flowM
  refine Post.bind (Post.foldlM_sem (sem := flowContribS sem) (semL := contribL sem) rfl (fun _ _ => rfl)
    (I := fun acc s rest => Carries acc.flow.doc s ∧ okSeq okc ctx acc.peekHash rest)
    (fun acc s x _ h => (flowStepM_carriesH hc hp hsp acc s x h.2.1 h.1).mono (fun _ h' => ⟨h'.1, h'.2 ▸ h.2.2⟩))
    children { st := st } {} ⟨Carries.nil, hok⟩) (fun acc hacc => Post.pure ?_)
  simpa using hacc.1

/-- **The flow stylist carries its children's contributions, in order**: outside math, where the mode
after a `#` makes no difference to what a producer may assume. -/
theorem flowM_carries {σ : Type} {e : Env} {ctx : Ctx} {producer : σ → Ctx → ANode → M (σ × Option FlowItem)}
    {sem : ANode → Streams} {ok : ANode → Prop}
    (hc : CommentOK e) (hp : ProducerS producer sem ok) (hsp : ∀ c : ANode, ok c → c.kind = .space → sem c = {})
    (hctx : NM ctx) (children : List ANode) (hok : ∀ c ∈ children, ok c) (st : σ) :
    Post (flowM e ctx children st producer) (fun d => Carries d (contribL sem children)) :=
  flowM_carriesH (okc := fun c x => NM c ∧ ok x) hc (fun st c x h => hp st c x h.1 h.2) (fun _ c h => hsp c h.2)
    children (okSeq_of_forall children (fun c hc => .inr fun hh => ⟨hctx.withModeIf hh, hok c hc⟩) false) st

end Typstyle
