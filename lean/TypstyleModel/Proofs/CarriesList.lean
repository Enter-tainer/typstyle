import TypstyleModel.Proofs.CarriesConstructs
/-! The list stylist (`ListStylist`) carries, in order, what the children of the list contribute:
the items the checker accepts, and the comments between them — whether a comment ends up in front of
an item, attached behind one, or on a line of its own; for all three fold styles; for every list of
children (code-mode lists: arrays, dictionaries, parameters, destructurings, parentheses, arguments,
code blocks), also with `#` among them (rows of math arguments, `mat(#a, b; c, d)`): a `#` sets
`peek_hash`, the next child must be an item, is converted in code mode and gets the `#` in front. -/
namespace Typstyle
open Twin

def optS : Option Doc → Streams
  | some d => d.ss
  | none => {}
def optGood : Option Doc → Bool
  | some d => d.good
  | none => true

def itemS : LItem → Streams
  | .comment d => d.ss
  | .commented body after => body.ss.app (optS after)
  | .linebreak _ => {}
def itemGood : LItem → Bool
  | .comment d => d.good
  | .commented body after => body.good && optGood after
  | .linebreak _ => true

def itemsS : List LItem → Streams
  | [] => {}
  | it :: rest => (itemS it).app (itemsS rest)
def itemsGood : List LItem → Bool
  | [] => true
  | it :: rest => itemGood it && itemsGood rest

def docsS : List Doc → Streams
  | [] => {}
  | d :: rest => d.ss.app (docsS rest)
def docsGood : List Doc → Bool
  | [] => true
  | d :: rest => d.good && docsGood rest

theorem itemsS_append (a b : List LItem) : itemsS (a ++ b) = (itemsS a).app (itemsS b) :=
  Streams.semL_append rfl (fun _ _ => rfl) a b

theorem itemsGood_append (a b : List LItem) : itemsGood (a ++ b) = (itemsGood a && itemsGood b) :=
  Bool.allL_append rfl (fun _ _ => rfl) a b

theorem docsS_append (a b : List Doc) : docsS (a ++ b) = (docsS a).app (docsS b) :=
  Streams.semL_append rfl (fun _ _ => rfl) a b

theorem docsGood_append (a b : List Doc) : docsGood (a ++ b) = (docsGood a && docsGood b) :=
  Bool.allL_append rfl (fun _ _ => rfl) a b

theorem itemsS_comments (ds : List Doc) : itemsS (ds.map LItem.comment) = docsS ds := by
  induction ds with
  | nil => rfl
  | cons d ds ih => simp only [List.map_cons, itemsS, itemS, docsS, ih]

theorem itemsGood_comments (ds : List Doc) : itemsGood (ds.map LItem.comment) = docsGood ds := by
  induction ds with
  | nil => rfl
  | cons d ds ih => simp only [List.map_cons, itemsGood, itemGood, docsGood, ih]

theorem intersperse_carries {ds : List Doc} {sep : Doc} (hs : Carries sep {}) (hg : docsGood ds = true) :
    Carries (intersperse ds sep) (docsS ds) := by
  cases ds with
  | nil => exact Carries.nil
  | cons d rest =>
    rw [docsGood, Bool.and_eq_true] at hg
    simpa [docsS, intersperse] using foldl_sem_ok (semL := docsS) rfl (fun _ _ => rfl) (okL := docsGood) (fun _ _ => rfl)
      (I := Carries) (fun acc s x ha hx => by simpa using (ha.app hs).app (carries_self x hx)) rest hg.2 _ _
      (Carries.nil.app (carries_self d hg.1))

def DocsCarry (docs : List Doc) (sp : Streams) : Prop := docsGood docs = true ∧ docsS docs = sp

theorem DocsCarry.snoc {docs : List Doc} {sp s : Streams} (h : DocsCarry docs sp) {d : Doc} (hd : Carries d s) :
    DocsCarry (docs ++ [d]) (sp.app s) := by
  refine ⟨?_, ?_⟩
  · rw [docsGood_append, h.1]; simp [docsGood, hd.1]
  · rw [docsS_append, h.2]; simp [docsS, hd.2]

theorem DocsCarry.concat {docs : List Doc} {s : Streams} (h : DocsCarry docs s) : Carries (concatDocs docs) s := by
  obtain ⟨hg, rfl⟩ := h
  simpa [concatDocs] using foldl_sem_ok (semL := docsS) rfl (fun _ _ => rfl) (okL := docsGood) (fun _ _ => rfl) (I := Carries)
    (fun acc s x ha hx => ha.app (carries_self x hx)) docs hg Doc.nil {} Carries.nil

/-- Invariant of `ListStylist` while it processes children: everything seen so far is, in order, in
the items and then in the pending comments; all documents are good; no `#` is pending. -/
structure LInv (s : LS) (sp : Streams) : Prop where
  ig : itemsGood s.items = true
  fg : docsGood s.free = true
  eq : (itemsS s.items).app (docsS s.free) = sp
  nh : s.peekHash = false

theorem LInv.congr' {s : LS} {sp sq : Streams} (h : LInv s sp) (e : sp = sq) : LInv s sq := e ▸ h

theorem LInv.withItems {s : LS} {sp : Streams} (h : LInv s sp) (s' : LS) (hi : s'.items = s.items) (hf : s'.free = s.free)
    (hh : s'.peekHash = false) : LInv s' sp :=
  ⟨hi ▸ h.ig, hf ▸ h.fg, by rw [hi, hf]; exact h.eq, hh⟩

theorem LInv.detach {s : LS} {sp : Streams} (h : LInv s sp) : LInv s.detach sp := by
  refine ⟨?_, rfl, ?_, h.nh⟩
  · show itemsGood (s.items ++ s.free.map LItem.comment) = true
    rw [itemsGood_append, itemsGood_comments, h.ig, h.fg]; rfl
  · show (itemsS (s.items ++ s.free.map LItem.comment)).app (docsS []) = sp
    rw [itemsS_append, itemsS_comments]; simpa [docsS] using h.eq

theorem dropLast_getLast {α : Type} (l : List α) (x : α) (h : l.getLast? = some x) : l = l.dropLast ++ [x] := by
  obtain ⟨ys, rfl⟩ := List.getLast?_eq_some_iff.mp h
  rw [List.dropLast_concat]

theorem LInv.tryAttach {s : LS} {sp : Streams} (h : LInv s sp) : LInv s.tryAttach.1 sp := by
  unfold LS.tryAttach
  split
  · split
    next body after hl =>
      -- the last item takes the pending comments behind it
      have hadd : Carries (Twin.space ++ intersperse s.free Twin.space) (docsS s.free) := by
        simpa using Carries.space.app (intersperse_carries Carries.space h.fg)
      obtain ⟨ig, -, eq, nh⟩ := h
      rw [dropLast_getLast s.items _ hl] at ig eq
      rw [itemsGood_append] at ig
      rw [itemsS_append] at eq
      simp only [itemsGood, itemGood, Bool.and_true, Bool.and_eq_true] at ig
      refine ⟨?_, rfl, ?_, nh⟩
      · show itemsGood (s.items.dropLast ++ [LItem.commented body _]) = true
        rw [itemsGood_append, ig.1]
        cases after with
        | none => simp [itemsGood, itemGood, optGood, ig.2.1, hadd.1]
        | some c => simp [itemsGood, itemGood, optGood, ig.2.1, ((carries_self c ig.2.2).app hadd).1]
      · show (itemsS (s.items.dropLast ++ [LItem.commented body _])).app (docsS []) = sp
        rw [itemsS_append, ← eq]
        cases after with
        | none => simp [itemsS, itemS, optS, docsS, hadd.2]
        | some c => simp [itemsS, itemS, optS, docsS, ((carries_self c ig.2.2).app hadd).2]
    next => exact h
  · exact h

theorem LInv.attachOrDetach {s : LS} {sp : Streams} (h : LInv s sp) : LInv s.attachOrDetach sp := by
  unfold LS.attachOrDetach
  simp only
  split
  · exact h.tryAttach
  · exact h.detach

theorem LInv.snocItem {s : LS} {sp : Streams} (h : LInv s sp) (hf : s.free = []) (it : LItem) (hg : itemGood it = true)
    (s' : LS) (hi : s'.items = s.items ++ [it]) (hfree : s'.free = []) (hh : s'.peekHash = false) : LInv s' (sp.app (itemS it)) := by
  refine ⟨?_, by rw [hfree]; rfl, ?_, hh⟩
  · rw [hi, itemsGood_append, h.ig]; simp [itemsGood, hg]
  · rw [hi, hfree, itemsS_append, ← h.eq, hf]; simp [itemsS, docsS]

theorem LInv.pushFree {s : LS} {sp sd : Streams} {d : Doc} (h : LInv s sp) (hd : Carries d sd) (s' : LS)
    (hi : s'.items = s.items) (hf : s'.free = s.free ++ [d]) (hh : s'.peekHash = false) : LInv s' (sp.app sd) :=
  ⟨hi ▸ h.ig, by rw [hf, docsGood_append, h.fg]; simp [docsGood, hd.1],
   by rw [hi, hf, docsS_append, ← Streams.app_assoc, h.eq]; simp [docsS, hd.2], hh⟩

/-- `add_item`: the pending comments go in front of the body (or onto lines of their own), then a
pending `#`, then the body. -/
theorem LInv.addItem (e : Env) {s : LS} {sp sb : Streams} (h : LInv { s with peekHash := false } sp) (body : Doc)
    (hb : Carries body sb) :
    LInv ({ (s.addItem e body) with peekHash := false }) ((sp.app (if s.peekHash then tagS .syn "#" else {})).app sb) := by
  have hhash : Carries (if s.peekHash then e.syn "#" else Doc.nil) (if s.peekHash then tagS .syn "#" else {}) := by
    split
    · exact Carries.mkText e.wd .syn "#"
    · exact Carries.nil
  -- in each case: `front ++ # ++ body` is appended to items that, with `front`, carry `sp`
  have push : ∀ {items0 : List LItem} {front : Doc} {sq : Streams} (s' : LS), itemsGood items0 = true → Carries front sq →
      (itemsS items0).app sq = sp →
      s'.items = items0 ++ [.commented ((front ++ if s.peekHash then e.syn "#" else Doc.nil) ++ body) none] → s'.free = [] →
      s'.peekHash = false → LInv s' ((sp.app (if s.peekHash then tagS .syn "#" else {})).app sb) := by
    intro items0 front sq s' hig hfront heq hi hf hh
    have hit := (hfront.app hhash).app hb
    refine ⟨?_, by rw [hf]; rfl, ?_, hh⟩
    · rw [hi, itemsGood_append, hig]; simp [itemsGood, itemGood, optGood, hit.1]
    · rw [hi, hf, itemsS_append, ← heq]; simp [itemsS, itemS, optS, docsS, hit.2]
  -- the cases of `add_item`, made before it is unfolded (`split` on the unfolded term is dear)
  by_cases h1 : s.disallowFront = true
  · -- disallow_front: the pending comments become items of their own
    simp only [LS.addItem, h1, ↓reduceIte]
    exact push _ h.detach.ig Carries.nil (by simpa [LS.detach, docsS] using h.detach.eq) rfl rfl rfl
  by_cases h2 : s.free.isEmpty = true
  · simp only [LS.addItem, h1, h2, ↓reduceIte]
    have hfe : s.free = [] := by simpa using h2
    exact push _ h.ig Carries.nil (by simpa [hfe, docsS] using h.eq) rfl hfe rfl
  · simp only [LS.addItem, h1, h2]
    have hdoc : Carries (if s.disallowDetach then intersperse s.free Twin.space ++ Twin.space
        else (intersperse s.free Twin.line ++ Twin.line).grp) (docsS s.free) :=
      Carries.ite (by simpa using (intersperse_carries Carries.space h.fg).app Carries.space)
        (by simpa using ((intersperse_carries Carries.line h.fg).app Carries.line).grp)
    refine push _ h.ig hdoc h.eq ?_ rfl rfl
    cases s.disallowDetach <;> rfl

/-- What a child that the checker does not accept contributes: a comment its text, anything else nothing. -/
def triviaS (x : ANode) : Streams := if isCommentKind x.kind then commentS x.text else {}

theorem triviaS_not_comment {x : ANode} (h : isCommentKind x.kind = false) : triviaS x = {} := by
  rw [triviaS, if_neg (by rw [h]; exact Bool.false_ne_true)]

theorem attachOrDetach_free (s : LS) : s.attachOrDetach.free = [] := by
  unfold LS.attachOrDetach LS.tryAttach LS.detach
  split
  · split
    · split <;> simp_all
    · simp_all
  · rfl

/-- `process_trivia` on a child that is not `#`. -/
theorem LInv.trivia (e : Env) {s : LS} {sp : Streams} (h : LInv s sp) (x : ANode) (hx : x.kind ≠ .hash) :
    Post (s.trivia e x) (fun s' => LInv s' (sp.app (triviaS x))) := by
  unfold triviaS
  refine Post.ite (fun hc => ?_) fun hc => ?_
  · rw [if_pos hc]
    refine Post.bind (commentOK e x hc) (fun d hd => Post.pure ?_)
    cases x.kind == .lineComment <;> exact h.pushFree hd _ rfl rfl h.nh
  · rw [if_neg hc, Streams.app_empty]
    refine Post.ite (fun _ => Post.pure h.tryAttach) fun _ => Post.ite (fun _ => ?_) fun _ =>
      Post.ite (fun hk => absurd (beq_iff_eq.mp hk) hx) fun _ => Post.pure h
    -- white space: with a line break in it, the pending comments are settled, and a blank line may be kept
    refine Post.ite (fun _ => ?_) fun _ => Post.pure h
    have ha := h.attachOrDetach
    dsimp only
    split
    · refine Post.pure ?_
      split
      · refine LInv.congr' ?_ (Streams.app_empty sp)
        exact ha.snocItem (attachOrDetach_free s) (.linebreak _) rfl _ rfl (attachOrDetach_free s) ha.nh
      · exact ha.withItems _ rfl rfl ha.nh
    · exact Post.pure (ha.withItems _ rfl rfl ha.nh)

theorem itemsS_dropTrailingLinebreaks (items : List LItem) : itemsS (dropTrailingLinebreaks items) = itemsS items ∧
    (itemsGood items = true → itemsGood (dropTrailingLinebreaks items) = true) :=
  Streams.semL_dropTrailing (sem := itemS) rfl (fun _ _ => rfl) (ok := itemGood) rfl (fun _ _ => rfl)
    (fun x h => by cases x with | linebreak _ => rfl | comment _ => cases h | commented _ _ => cases h) items

/-- `process_windup`. -/
theorem LInv.windup {s : LS} {sp : Streams} (h : LInv s sp) : LInv s.windup sp ∧ s.windup.free = [] :=
  have ha := h.attachOrDetach
  have hd := itemsS_dropTrailingLinebreaks s.attachOrDetach.items
  ⟨⟨hd.2 ha.ig, ha.fg, hd.1 ▸ ha.eq, ha.nh⟩, attachOrDetach_free s⟩

theorem LInv.items_eq {s : LS} {sp : Streams} (h : LInv s sp) (hf : s.free = []) : itemsS s.items = sp := by
  rw [← h.eq, hf]; simp [docsS]

/-- Contract of the item checker of a list-like construct. -/
def CheckerS (checker : Ctx → ANode → M (Option Doc)) (sem : ANode → Streams) (ok : ANode → Prop)
    (P : Ctx → Prop := NM) : Prop :=
  ∀ c x, P c → ok x → Post (checker c x) fun r =>
    match r with
    | some body => Carries body (sem x)
    | none => sem x = triviaS x

/-- Contract of a checker whose obligations depend on the context it is called in. -/
def CheckerH (checker : Ctx → ANode → M (Option Doc)) (sem : ANode → Streams) (okc : Ctx → ANode → Prop) : Prop :=
  ∀ c x, okc c x → Post (checker c x) fun r =>
    match r with
    | some body => Carries body (sem x)
    | none => sem x = triviaS x

/-- A checker that converts exactly the nodes `p` accepts. -/
theorem guardItem_post {p : Bool} {conv : M Doc} {s : Streams} (h : p = true → Post conv (fun d => Carries d s)) :
    Post (if p then (do pure (some (← conv))) else pure none) fun o =>
      match o with
      | some body => Carries body s
      | none => p = false :=
  Post.ite (fun hp => Post.map (h hp)) (fun hp => Post.pure (Bool.eq_false_iff.mpr hp))

/-- What the children must satisfy when `#` may stand among them (rows of math arguments,
`mat(#a, b; c, d)`): a `#` only when none is pending; the child after a `#` is converted in code mode
and is an item (`acc`). -/
def HSeq (okc : Ctx → ANode → Prop) (acc : ANode → Prop) (ctx : Ctx) : Bool → List ANode → Prop
  | p, [] => p = false
  | p, x :: xs =>
    (if x.kind = .hash then p = false ∧ ANode.tokensAreLeaves x = true
     else okc (ctx.withModeIf .code p) x ∧ (p = true → acc x)) ∧
    HSeq okc acc ctx (decide (x.kind = .hash)) xs

theorem HSeq.of_no_hash {okc : Ctx → ANode → Prop} {acc : ANode → Prop} {ctx : Ctx} (l : List ANode)
    (h : ∀ x ∈ l, x.kind ≠ .hash ∧ okc (ctx.withModeIf .code false) x) : HSeq okc acc ctx false l := by
  induction l with
  | nil => rfl
  | cons x xs ih =>
    have hx := h x List.mem_cons_self
    refine ⟨by rw [if_neg hx.1]; exact ⟨hx.2, nofun⟩, ?_⟩
    rw [decide_eq_false hx.1]
    exact ih (fun y hy => h y (List.mem_cons_of_mem _ hy))

/-- The invariant with a possibly pending `#`: the `#` is accounted for, and will be printed in front
of the next item. -/
def HInv (s : LS) (sp : Streams) : Prop :=
  ∃ sp0, LInv { s with peekHash := false } sp0 ∧ sp = sp0.app (if s.peekHash then tagS .syn "#" else {})

theorem HInv.ofL {s : LS} {sp : Streams} (h : LInv s sp) : HInv s sp :=
  ⟨sp, h.withItems _ rfl rfl rfl, by rw [h.nh]; simp⟩

theorem HInv.toL {s : LS} {sp : Streams} (h : HInv s sp) (hp : s.peekHash = false) : LInv s sp := by
  obtain ⟨sp0, h0, rfl⟩ := h
  rw [hp]
  exact (h0.withItems s rfl rfl hp).congr' (by simp)

theorem LS.trivia_hash (e : Env) (s : LS) {x : ANode} (hk : x.kind = .hash) : s.trivia e x = pure { s with peekHash := true } := by
  simp [LS.trivia, hk, isCommentKind]

section
variable (e : Env) (ctx : Ctx) (checker : Ctx → ANode → M (Option Doc)) {sem : ANode → Streams}
  {okc : Ctx → ANode → Prop} {acc : ANode → Prop}
  (hc : CheckerH checker sem okc) (hacc : ∀ c x, acc x → Post (checker c x) (fun r => r.isSome = true))
include hc hacc

/-- One iteration of `process_iterable_impl`. -/
theorem HInv.stepM {s : LS} {sp : Streams} (h : HInv s sp) (x : ANode)
    (hrej : x.kind = .hash → ∀ c, checker c x = pure none)
    (hsemh : ANode.tokensAreLeaves x = true → x.kind = .hash → sem x = tagS .syn "#")
    (hx : if x.kind = .hash then s.peekHash = false ∧ ANode.tokensAreLeaves x = true
          else okc (ctx.withModeIf .code s.peekHash) x ∧ (s.peekHash = true → acc x)) :
    Post (LS.stepM e ctx checker s x) (fun s' => HInv s' (sp.app (sem x)) ∧ s'.peekHash = decide (x.kind = .hash)) := by
  unfold LS.stepM
  dsimp only
  by_cases hk : x.kind = .hash
  · rw [if_pos hk] at hx
    rw [hrej hk, M.pure_bind, LS.trivia_hash e _ hk, hsemh hx.2 hk]
    exact Post.pure ⟨⟨sp, (h.toL hx.1).withItems _ rfl rfl rfl, rfl⟩, by rw [hk]; rfl⟩
  · rw [if_neg hk] at hx
    obtain ⟨sp0, h0, rfl⟩ := h
    have hsome : Post (checker (ctx.withModeIf .code s.peekHash) x) (fun r => s.peekHash = true → r.isSome = true) :=
      fun k r k' hr hp => hacc _ x (hx.2 hp) k r k' hr
    refine Post.bind ((hc _ x hx.1).and hsome) (fun r hr => ?_)
    cases r with
    | some body => exact Post.pure ⟨HInv.ofL (LInv.addItem e h0 body hr.1), (decide_eq_false hk).symm⟩
    | none =>
      have hp : s.peekHash = false := Bool.eq_false_iff.mpr fun hp => nomatch hr.2 hp
      rw [hr.1, hp]
      exact (LInv.trivia e h0 x hk).mono (fun s' hs' => ⟨HInv.ofL (hs'.congr' (by simp)), by rw [hs'.nh, decide_eq_false hk]⟩)

/-- **`ListStylist::process` carries the children's contributions, in order**, and leaves no comment
pending: the checker need only reject the `#`s that stand among the children. -/
theorem processM_carries_gen (s0 : LS) (h0 : LInv s0 {}) (nodes : List ANode)
    (hrej : ∀ x ∈ nodes, x.kind = .hash → ∀ c, checker c x = pure none)
    (hsemh : ∀ x ∈ nodes, ANode.tokensAreLeaves x = true → x.kind = .hash → sem x = tagS .syn "#")
    (hseq : HSeq okc acc ctx false nodes) :
    Post (s0.processM e ctx nodes checker) (fun s => LInv s (nodes.foldl (fun acc x => acc.app (sem x)) {}) ∧ s.free = []) := by
  unfold LS.processM
  refine Post.bind (Post.foldlM_ghost (gstep := fun sp x => sp.app (sem x))
    (I := fun s sp rest => HInv s sp ∧ HSeq okc acc ctx s.peekHash rest ∧ ∀ x ∈ rest, x ∈ nodes)
    (fun s sp x rest h => (HInv.stepM e ctx checker hc hacc h.1 x (hrej x (h.2.2 x List.mem_cons_self))
        (hsemh x (h.2.2 x List.mem_cons_self)) h.2.1.1).mono
      (fun s' hs' => ⟨hs'.1, hs'.2 ▸ h.2.1.2, fun y hy => h.2.2 y (List.mem_cons_of_mem _ hy)⟩))
    nodes s0 {} ⟨HInv.ofL h0, h0.nh ▸ hseq, fun _ h => h⟩) (fun s hs => Post.pure (hs.1.toL hs.2.1).windup)

end

/-- **`ListStylist::process` with `#` among the children.** -/
theorem processM_carriesH (e : Env) (ctx : Ctx) (checker : Ctx → ANode → M (Option Doc)) {sem : ANode → Streams}
    {okc : Ctx → ANode → Prop} {acc : ANode → Prop}
    (hc : CheckerH checker sem okc) (hrej : ∀ c x, x.kind = .hash → checker c x = pure none)
    (hacc : ∀ c x, acc x → Post (checker c x) (fun r => r.isSome = true))
    (hsemh : ∀ x, ANode.tokensAreLeaves x = true → x.kind = .hash → sem x = tagS .syn "#")
    (s0 : LS) (h0 : LInv s0 {}) (nodes : List ANode) (hseq : HSeq okc acc ctx false nodes) :
    Post (s0.processM e ctx nodes checker) (fun s => LInv s (nodes.foldl (fun acc x => acc.app (sem x)) {}) ∧ s.free = []) :=
  processM_carries_gen e ctx checker hc hacc s0 h0 nodes (fun x _ hk c => hrej c x hk) (fun x _ => hsemh x) hseq

/-- **`ListStylist::process` carries the children's contributions, in order**, and leaves no comment pending. -/
theorem processM_carries (e : Env) (ctx : Ctx) (checker : Ctx → ANode → M (Option Doc)) {sem : ANode → Streams} {ok : ANode → Prop}
    {P : Ctx → Prop} (hc : CheckerS checker sem ok P) (hctx : P ctx) (s0 : LS) (h0 : LInv s0 {}) (nodes : List ANode) (hok : ∀ x ∈ nodes, ok x)
    (hnh : ∀ x ∈ nodes, x.kind ≠ .hash) :
    Post (s0.processM e ctx nodes checker) (fun s => LInv s (nodes.foldl (fun acc x => acc.app (sem x)) {}) ∧ s.free = []) :=
  processM_carries_gen (okc := fun c x => P c ∧ ok x) (acc := fun _ => False) e ctx checker (fun c x h => hc c x h.1 h.2) (fun _ _ => nofun)
    s0 h0 nodes (fun x hx hk => absurd hk (hnh x hx)) (fun x hx _ hk => absurd hk (hnh x hx))
    (HSeq.of_no_hash nodes (fun x hx => ⟨hnh x hx, hctx, hok x hx⟩))

theorem optDoc_carries (o : Option Doc) (h : optGood o = true) : Carries (optDoc o) (optS o) := by
  cases o with
  | none => exact Carries.nil
  | some d => exact ⟨h, rfl⟩

theorem foldl_carries {β : Type} {step : Doc × β → LItem → Doc × β}
    (hstep : ∀ acc sa it, Carries acc.1 sa → itemGood it = true → Carries (step acc it).1 (sa.app (itemS it)))
    (items : List LItem) (acc : Doc × β) (ha : Carries acc.1 {}) (hg : itemsGood items = true) :
    Carries (items.foldl step acc).1 (itemsS items) := by
  simpa using foldl_sem_ok (semL := itemsS) rfl (fun _ _ => rfl) (okL := itemsGood) (fun _ _ => rfl)
    (I := fun acc s => Carries acc.1 s) hstep items hg acc {} ha

section
variable (sty : ListStyle) (hsep : Carries sty.sep {})
include hsep

theorem neverStep_carries (count : Nat) (acc : Doc × Nat) (sa : Streams) (it : LItem) (ha : Carries acc.1 sa)
    (hg : itemGood it = true) : Carries (neverStep sty count acc it).1 (sa.app (itemS it)) := by
  obtain ⟨inner, i⟩ := acc
  cases it with
  | comment c =>
    simpa [neverStep, itemS] using ha.app ((carries_self c hg).app Carries.hardline)
  | linebreak n =>
    simpa [neverStep, itemS] using ha.app (Carries.repeatN Carries.hardline n)
  | commented body after =>
    simp only [itemGood, Bool.and_eq_true] at hg
    have hb := ha.app (((carries_self body hg.1).app hsep).app (optDoc_carries after hg.2))
    simp only [neverStep, itemS]
    exact Carries.ite (by simpa using hb.app Carries.hardline) (by simpa using hb)

theorem alwaysStep_carries (count real : Nat) (trailing : Bool) (acc : Doc × Nat × Nat) (sa : Streams) (it : LItem)
    (ha : Carries acc.1 sa) (hg : itemGood it = true) : Carries (alwaysStep sty count real trailing acc it).1 (sa.app (itemS it)) := by
  obtain ⟨inner, i, seen⟩ := acc
  cases it with
  | comment c =>
    simp only [alwaysStep, itemS]
    exact ha.app (Carries.ite (carries_self c hg) (by simpa using (carries_self c hg).app Carries.space))
  | linebreak n => simpa [alwaysStep, itemS] using ha
  | commented body after =>
    simp only [itemGood, Bool.and_eq_true] at hg
    have hb := ha.app ((carries_self body hg.1).app (optDoc_carries after hg.2))
    simp only [alwaysStep, itemS]
    exact Carries.ite (by simpa using hb.app (hsep.app Carries.space)) (Carries.ite (by simpa using hb.app hsep) hb)

theorem fitStep_carries (count real : Nat) (trailing : Bool) (acc : Doc × Nat × Nat) (sa : Streams) (it : LItem)
    (ha : Carries acc.1 sa) (hg : itemGood it = true) : Carries (fitStep sty count real trailing acc it).1 (sa.app (itemS it)) := by
  obtain ⟨inner, i, seen⟩ := acc
  cases it with
  | comment c =>
    simp only [fitStep, itemS]
    exact ha.app (Carries.ite (carries_self c hg) (by simpa using (carries_self c hg).app Carries.hardline))
  | linebreak n => simpa [fitStep, itemS] using ha.app (Carries.repeatN Carries.line n)
  | commented body after =>
    simp only [itemGood, Bool.and_eq_true] at hg
    have hbody := carries_self body hg.1
    have hln : Carries (if !(seen + 1 == real) then Twin.line else if sty.tightDelim then Doc.nil else Twin.line_) {} :=
      Carries.ite Carries.line (Carries.ite Carries.nil Carries.line_)
    simp only [fitStep, itemS]
    cases after with
    | some a =>
      have haft := carries_self a hg.2
      have hfollow : Carries (Doc.falt (sty.sep ++ a) (if (!(seen + 1 == real) || trailing) = true then a ++ sty.sep else a)) a.ss :=
        Carries.falt (by simpa using hsep.app haft) (Carries.ite (by simpa using haft.app hsep) haft)
      simpa [optS] using ha.app ((hbody.app hfollow).app hln)
    | none =>
      have hfollow : Carries (if (seen + 1 == real && sty.tightDelim) = true then Doc.nil
          else if (!(seen + 1 == real) || trailing) = true then sty.sep else Doc.falt sty.sep Doc.nil) {} :=
        Carries.ite Carries.nil (Carries.ite hsep (Carries.falt hsep Carries.nil))
      simpa [optS] using ha.app ((hbody.app hfollow).app hln)

/-- **`print_doc` carries opening delimiter, items, closing delimiter**, in order, in every branch (all
three fold styles) — provided the delimiters carry nothing where the style may omit them. -/
theorem print_carries_gen (e : Env) (s : LS) {s0 s1 : Streams} (hd0 : Carries sty.d0 s0) (hd1 : Carries sty.d1 s1)
    (ho : (sty.omitDelimSingle || sty.omitDelimFlat || sty.omitDelimEmpty) = true → s0 = {} ∧ s1 = {})
    (hig : itemsGood s.items = true) : Carries (s.print e sty) ((s0.app (itemsS s.items)).app s1) := by
  -- with the delimiters omitted, what is left carries the items
  have bare : ∀ {d : Doc} {si : Streams}, Carries d si →
      (sty.omitDelimSingle = true ∨ sty.omitDelimFlat = true ∨ sty.omitDelimEmpty = true) → Carries d ((s0.app si).app s1) := by
    intro d si hd h
    obtain ⟨rfl, rfl⟩ := ho (by rcases h with h | h | h <;> simp [h])
    simpa using hd
  unfold LS.print
  refine Carries.ite_cases (fun he => ?_) fun _ => ?_
  · rw [show s.items = [] by simpa using he]
    exact Carries.ite_cases (fun h => bare Carries.nil (.inr (.inr h))) fun _ =>
      Carries.ite (by simpa [itemsS] using (hd0.app Carries.space).app hd1) (by simpa [itemsS] using hd0.app hd1)
  simp only
  split
  · have hf := foldl_carries (neverStep_carries sty hsep s.items.length) s.items
      (if sty.tightDelim then Doc.nil else Twin.hardline, 0) (Carries.ite Carries.nil Carries.hardline) hig
    exact (Carries.ite hf.nstTab hf).enclose hd0 hd1
  · have hg := fun t => (foldl_carries (alwaysStep_carries sty hsep s.items.length s.realCount t) s.items (Doc.nil, 0, 0)
      Carries.nil hig).grp
    exact Carries.ite_cases (fun h => bare (hg _) (by
        simp only [Bool.or_eq_true, Bool.and_eq_true] at h
        exact h.elim (fun h => .inl h.2) (fun h => .inr (.inl h)))) fun _ =>
      Carries.ite (by simpa using ((hg _).enclose Carries.space Carries.space).enclose hd0 hd1) ((hg _).enclose hd0 hd1)
  · have hf := fun t => foldl_carries (fitStep_carries sty hsep s.items.length s.realCount t) s.items
      (if sty.tightDelim then Doc.nil else Twin.line_, 0, 0) (Carries.ite Carries.nil Carries.line_) hig
    have hf' := fun t => Carries.ite (c := (!sty.noIndent) = true) (hf t).nstTab (hf t)
    exact Carries.ite_cases (fun h => bare (hf' _).grp (.inl (Bool.and_eq_true_iff.mp h).2)) fun _ =>
      Carries.ite_cases (fun h => by
        obtain ⟨rfl, rfl⟩ := ho (by simp [h])
        exact ((hf' _).enclose (Carries.falt hd0 Carries.nil) (Carries.falt hd1 Carries.nil)).grp) fun _ =>
      Carries.ite ((hf' _).enclose (Carries.falt hd0 (by simpa using hd0.app Carries.space))
        (Carries.falt hd1 (by simpa using Carries.space.app hd1))).grp ((hf' _).grp.enclose hd0 hd1)

end

/-- `print_doc` carries exactly the items when separator and delimiters are re-synthesised characters. -/
theorem print_carries (e : Env) (s : LS) (sty : ListStyle) (hsep : Carries sty.sep {}) (hd0 : Carries sty.d0 {})
    (hd1 : Carries sty.d1 {}) (hig : itemsGood s.items = true) : Carries (s.print e sty) (itemsS s.items) := by
  simpa using print_carries_gen sty hsep e s hd0 hd1 (fun _ => ⟨rfl, rfl⟩) hig

/-- `print_doc` with delimiters that are tokens of their own (an equation's `$`): for a style that never
omits its delimiters, the result carries opening delimiter, items, closing delimiter. -/
theorem print_carries_delims (e : Env) (s : LS) (sty : ListStyle) (hsep : Carries sty.sep {}) {s0 s1 : Streams}
    (hd0 : Carries sty.d0 s0) (hd1 : Carries sty.d1 s1)
    (ho1 : sty.omitDelimSingle = false) (ho2 : sty.omitDelimFlat = false) (ho3 : sty.omitDelimEmpty = false)
    (hig : itemsGood s.items = true) : Carries (s.print e sty) ((s0.app (itemsS s.items)).app s1) :=
  print_carries_gen sty hsep e s hd0 hd1 (fun h => by simp [ho1, ho2, ho3] at h) hig

/-! List-like constructs (route M): arrays, dictionaries, parenthesised expressions and code blocks carry
what the node prescribes when their children's conversions do. -/

theorem ignorable_mem {x : ANode} (h : isIgnorable x = true) :
    x.kind ∈ [Kind.space, .leftParen, .rightParen, .leftBrace, .rightBrace, .comma, .semicolon, .colon] := by
  unfold isIgnorable Kind.fixedText at h
  split at h
  all_goals simp_all

/-- At a known kind `h` is `rfl`. -/
theorem isIgnorable_of_kind {x : ANode} {k : Kind} (hk : x.kind = k) (h : (k == .space || k.fixedText.isSome) = true) :
    isIgnorable x = true := by
  rw [isIgnorable, hk]; exact h

/-- `hp` is closed by `by decide`: eight evaluations. -/
theorem ignorable_not_class {p : Kind → Bool} {x : ANode} (h : isIgnorable x = true)
    (hp : ∀ k ∈ [Kind.space, .leftParen, .rightParen, .leftBrace, .rightBrace, .comma, .semicolon, .colon], p k = false) :
    p x.kind = false :=
  hp _ (ignorable_mem h)

theorem specAll_ignorable (x : ANode) (h : ANode.tokensAreLeaves x = true) (hi : isIgnorable x = true) : specAll x = {} := by
  simp only [isIgnorable, Bool.or_eq_true, beq_iff_eq] at hi
  rcases hi with hk | hk
  · exact specAll_space x h hk
  · obtain ⟨s, hf⟩ := Option.isSome_iff_exists.mp hk
    exact specAll_fixedText x h hf

theorem specAllL_filter_ignorable (cs : List ANode) (hlex : ANode.tokensAreLeavesL cs = true) :
    specAllL (cs.filter fun x => !isIgnorable x) = specAllL cs :=
  specAllL_filter _ cs (fun c hc hp => specAll_ignorable c (tokensAreLeavesL_mem hlex hc) (by simpa using hp))

theorem specAllL_trim {pre s suf : List ANode} (hlex : ANode.tokensAreLeavesL (pre ++ (s ++ suf)) = true)
    (hpre : ∀ x ∈ pre, isIgnorable x = true) (hsuf : ∀ x ∈ suf, isIgnorable x = true) :
    ANode.tokensAreLeavesL s = true ∧ specAllL (pre ++ (s ++ suf)) = specAllL s := by
  simp only [lexL_append, Bool.and_eq_true] at hlex
  have hnil : ∀ l : List ANode, ANode.tokensAreLeavesL l = true → (∀ x ∈ l, isIgnorable x = true) → specAllL l = {} :=
    fun l hl h => by rw [← specAllL_filter_ignorable l hl, List.filter_eq_nil_iff.mpr (by simpa using h)]; rfl
  refine ⟨hlex.2.1, ?_⟩
  rw [specAllL_append, specAllL_append, hnil pre hlex.1 hpre, hnil suf hlex.2.2 hsuf, Streams.empty_app, Streams.app_empty]

theorem triviaS_comment (x : ANode) (h : ANode.tokensAreLeaves x = true) (hc : isCommentKind x.kind = true) : specAll x = triviaS x := by
  rw [triviaS, if_pos hc, specAll_comment x h hc]

theorem triviaS_ignorable (x : ANode) (h : ANode.tokensAreLeaves x = true) (hi : isIgnorable x = true) : specAll x = triviaS x := by
  rw [specAll_ignorable x h hi, triviaS_not_comment (ignorable_not_class (p := isCommentKind) hi (by decide))]

theorem LInv.init (s0 : LS) (h0 : s0.items = [] ∧ s0.free = [] ∧ s0.peekHash = false) : LInv s0 {} :=
  ⟨by rw [h0.1]; rfl, by rw [h0.2.1]; rfl, by rw [h0.1, h0.2.1]; rfl, h0.2.2⟩

theorem list_construct_of_process {e : Env} {process : M LS} {nodes : List ANode}
    (hproc : Post process (fun s => LInv s (nodes.foldl (fun acc x => acc.app (specAll x)) {}) ∧ s.free = []))
    (post : LS → LS) (hpost : ∀ s, (post s).items = s.items)
    (sty : ListStyle) (hsep : Carries sty.sep {}) (hd0 : Carries sty.d0 {}) (hd1 : Carries sty.d1 {}) :
    Post (do let ls ← process; pure ((post ls).print e sty)) (fun d => Carries d (specAllL nodes)) := by
  refine Post.bind hproc (fun ls hls => Post.pure ?_)
  rw [← Streams.empty_app (specAllL nodes), ← Streams.foldl_app specAllL_nil specAllL_cons, ← hls.1.items_eq hls.2, ← hpost ls]
  exact print_carries e (post ls) sty hsep hd0 hd1 (by rw [hpost]; exact hls.1.ig)

theorem list_construct_carries (e : Env) (ctx : Ctx) (checker : Ctx → ANode → M (Option Doc)) (ok : ANode → Prop)
    {P : Ctx → Prop} (hc : CheckerS checker specAll ok P) (hctx : P ctx) (s0 : LS) (h0 : s0.items = [] ∧ s0.free = [] ∧ s0.peekHash = false)
    (post : LS → LS) (hpost : ∀ s, (post s).items = s.items)
    (sty : ListStyle) (hsep : Carries sty.sep {}) (hd0 : Carries sty.d0 {}) (hd1 : Carries sty.d1 {})
    (nodes : List ANode) (hok : ∀ x ∈ nodes, ok x) (hnh : ∀ x ∈ nodes, x.kind ≠ .hash) :
    Post (do let ls ← s0.processM e ctx nodes checker; pure ((post ls).print e sty)) (fun d => Carries d (specAllL nodes)) :=
  list_construct_of_process (processM_carries e ctx checker hc hctx s0 (LInv.init s0 h0) nodes hok hnh) post hpost sty hsep hd0 hd1

theorem list_construct_carriesH (e : Env) (ctx : Ctx) (checker : Ctx → ANode → M (Option Doc))
    {okc : Ctx → ANode → Prop} {acc : ANode → Prop}
    (hc : CheckerH checker specAll okc) (hrej : ∀ c x, x.kind = .hash → checker c x = pure none)
    (hacc : ∀ c x, acc x → Post (checker c x) (fun r => r.isSome = true))
    (hsemh : ∀ x, ANode.tokensAreLeaves x = true → x.kind = .hash → specAll x = tagS .syn "#")
    (s0 : LS) (h0 : s0.items = [] ∧ s0.free = [] ∧ s0.peekHash = false)
    (post : LS → LS) (hpost : ∀ s, (post s).items = s.items)
    (sty : ListStyle) (hsep : Carries sty.sep {}) (hd0 : Carries sty.d0 {}) (hd1 : Carries sty.d1 {})
    (nodes : List ANode) (hseq : HSeq okc acc ctx false nodes) :
    Post (do let ls ← s0.processM e ctx nodes checker; pure ((post ls).print e sty)) (fun d => Carries d (specAllL nodes)) :=
  list_construct_of_process (processM_carriesH e ctx checker hc hrej hacc hsemh s0 (LInv.init s0 h0) nodes hseq) post hpost sty hsep hd0 hd1

theorem list_construct_carries_delims (e : Env) (ctx : Ctx) (checker : Ctx → ANode → M (Option Doc)) (ok : ANode → Prop)
    {P : Ctx → Prop} {sem : ANode → Streams} (hc : CheckerS checker sem ok P) (hctx : P ctx)
    (s0 : LS) (h0 : s0.items = [] ∧ s0.free = [] ∧ s0.peekHash = false)
    (sty : ListStyle) (hsep : Carries sty.sep {}) {t0 t1 : Streams} (hd0 : Carries sty.d0 t0) (hd1 : Carries sty.d1 t1)
    (ho1 : sty.omitDelimSingle = false) (ho2 : sty.omitDelimFlat = false) (ho3 : sty.omitDelimEmpty = false)
    (nodes : List ANode) (hok : ∀ x ∈ nodes, ok x) (hnh : ∀ x ∈ nodes, x.kind ≠ .hash) :
    Post (do let ls ← s0.processM e ctx nodes checker; pure (ls.print e sty))
      (fun d => Carries d ((t0.app (nodes.foldl (fun acc x => acc.app (sem x)) {})).app t1)) := by
  refine Post.bind (processM_carries e ctx checker hc hctx s0 (LInv.init s0 h0) nodes hok hnh) (fun ls hls => Post.pure ?_)
  rw [← hls.1.items_eq hls.2]
  exact print_carries_delims e ls sty hsep hd0 hd1 ho1 ho2 ho3 hls.1.ig

theorem soft_delims (e : Env) : Carries (e.soft "(") {} ∧ Carries (e.soft ")") {} ∧ Carries (e.soft ",") {} ∧
    Carries (e.soft "{") {} ∧ Carries (e.soft "}") {} ∧ Carries (e.soft "(:") {} :=
  ⟨Carries.soft e _ (by decide), Carries.soft e _ (by decide), Carries.soft e _ (by decide),
   Carries.soft e _ (by decide), Carries.soft e _ (by decide), Carries.soft e _ (by decide)⟩

theorem optionalParen_carries (e : Env) {body : Doc} {sb : Streams} (hb : Carries body sb) (d0 d1 : String)
    (h0 : d0.toList.filter Pretty.keepChar = []) (h1 : d1.toList.filter Pretty.keepChar = []) :
    Carries (optionalParen e body d0 d1) sb := by
  unfold optionalParen
  have hop : Carries (Doc.falt (e.soft d0 ++ Twin.hardline) Doc.nil) {} :=
    Carries.falt (by simpa using (Carries.soft e d0 h0).app Carries.hardline) Carries.nil
  have hcl : Carries (Doc.falt (Twin.hardline ++ e.soft d1) Doc.nil) {} :=
    Carries.falt (by simpa using Carries.hardline.app (Carries.soft e d1 h1)) Carries.nil
  simpa using (((hop.app hb).nstTab).app hcl).grp

theorem parenthesizeIfNecessary_carries (e : Env) (ctx : Ctx) (hnm : NM ctx) {body : Ctx → M Doc} {s : Streams}
    (h : ∀ ctx, NM ctx → Post (body ctx) (fun d => Carries d s)) :
    Post (parenthesizeIfNecessary e ctx body) (fun d => Carries d s) := by
  unfold parenthesizeIfNecessary
  split
  · exact h ctx hnm
  · exact Post.bind (h _ (NM.withMode _ (by decide)))
      (fun d hd => Post.pure (optionalParen_carries e hd "(" ")" (by decide) (by decide)))

end Typstyle
