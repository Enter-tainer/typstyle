import TypstyleModel.Proofs.CarriesMarkup
import TypstyleModel.Proofs.KnotCode
import TypstyleModel.Proofs.KnotMath
/-! The knot (route M): **for every tree of the covered fragment (Model/Fragment.lean), the printed family carries
exactly what the tree prescribes** — code tokens, comments, prose, literals and verbatim text — with no per-case
certificate.  By induction over the fuel of the knot; of the entry points that make one level, parentheses, patterns
and markup are here. -/
namespace Typstyle
open Twin

section
variable {e : Env} {r : Rec}

theorem convParenthesized_frag (hr : RecOK r Q) (ctx : Ctx) (n : ANode) (hk : n.kind = .parenthesized)
    (hdis : n.attrs.disabled = false) (hq : inFrag n = true) : Post (convParenthesized e r ctx n) (fun d => Carries d (specAll n)) := by
  obtain ⟨cs, a, rfl⟩ := inFrag_inner_of_kind hq hk rfl (by decide)
  obtain ⟨(hch : listChildrenOK .parenthesized cs = true), hlex, hqc⟩ := inFrag_inner hq (by decide)
  simp only [listChildrenOK, Bool.and_eq_true] at hch
  obtain ⟨sp0, sp1, -⟩ := soft_delims e
  rw [specAll_enabled cs (show a.disabled = false from hdis) rfl]
  unfold convParenthesized
  simp only [ANode.children]
  cases hf : cs.find? isPattern with
  | none => exact Post.bind (Q := fun _ => False) (by unfold childOr; exact Post.rejected) (fun _ h => h.elim)
  | some p =>
    have hpm : p ∈ cs := List.mem_of_find?_eq_some hf
    simp only [childOr, M.pure_bind]
    split
    · -- directly nested: the inner layer alone
      rename_i hcond
      simp only [Bool.and_eq_true, beq_iff_eq, Bool.not_eq_true'] at hcond
      have hnc : (cs.any fun c => isCommentKind c.kind) = false := hcond.2
      have h2 := hch.2
      simp [hf, hcond.1, hnc] at h2
      -- `p` is the only child that prescribes anything
      have hpf : p ∈ cs.filter fun x => !isIgnorable x :=
        List.mem_filter.mpr ⟨hpm, by unfold isIgnorable; rw [hcond.1]; rfl⟩
      rw [← specAllL_filter_ignorable cs hlex]
      obtain ⟨q, hq1⟩ := List.length_eq_one_iff.mp h2.2
      rw [hq1] at hpf ⊢
      rw [← List.mem_singleton.mp hpf, specAllL_cons, specAllL_nil, Streams.app_empty]
      exact hr.paren _ p (NM.withMode _ (by decide)) hcond.1 h2.1 (hqc p hpm)
    · refine list_frag (NM.withMode _ (by decide)) hch.1 hqc (fun c x hnm hqx => ?_) (fun _ _ => rfl) ⟨rfl, rfl, rfl⟩
        (post := id) (fun _ => rfl) Carries.nil sp0 sp1
      unfold parenItem
      exact guardItem_post (fun hp => hr.pattern c x hnm hp hqx)

theorem convPattern_frag (hr : RecOK r Q) (hrM : RecOKM r QM) (ctx : Ctx) (hctx : NM ctx) (n : ANode)
    (hp : isPattern n = true) (hq : inFrag n = true) :
    Post (convPattern e r (convExpr e r) (convParenthesized e r) ctx n) (fun d => Carries d (specAll n)) := by
  unfold convPattern
  refine Post.bind_any fun _ => ?_
  simp only [isPattern, Bool.or_eq_true, beq_iff_eq, or_assoc] at hp
  rcases hp with hu | hdk | hx
  · obtain ⟨t, a, hn⟩ := leaf_of_token (inFrag_lex n hq) (by rw [hu]; rfl)
    rw [hu] at hn
    subst hn
    cases leaf_tok_fixed (inFrag_lex _ hq) rfl
    rw [specAll_tagged_leaf .underscore _ _ rfl]
    exact Post.ite (fun _ => Post.pure (Carries.mkText e.wd .tok "_"))
      (fun _ => Post.pure ((Carries.mkText e.wd .syn "_").congr (tagS_syn_eq_tok "_")))
  · obtain ⟨cs, a, rfl⟩ := inFrag_inner_of_kind hq hdk rfl (by decide)
    exact Post.ite (fun hd => Post.pure (verb_inner_carries e hd (.inr rfl)))
      (fun hd => (paramList_frag hr ctx (Or.inr rfl) (fun _ => Bool.eq_false_iff.mpr hd) hq).2)
  · -- every other pattern of the fragment is an expression
    refine Post.ite (fun hd => ?_) (fun hd => ?_)
    · -- marked: verbatim, as at the expression entry point
      cases n with
      | leaf k t a =>
        have := leaf_expr_frag (e := e) (r := r) ctx k t a hx hq
        rwa [if_pos (show a.disabled = true from hd)] at this
      | inner k cs a => exact Post.pure (verb_inner_carries e hd (.inl hx))
    · split
      · exact absurd ‹_› (Kind.ne_of_class (p := Kind.isExpr) hx rfl)
      · exact absurd ‹_› (Kind.ne_of_class (p := Kind.isExpr) hx rfl)
      · exact convParenthesized_frag hr ctx n ‹_› (Bool.eq_false_iff.mpr hd) hq
      · exact convExpr_frag hr hrM ctx hctx n hx hq

theorem convMarkup_frag (hr : RecOK r Q) (ctx : Ctx) (n : ANode) (scope : Scope) (hk : n.kind = .markup)
    (hq : inFrag n = true) : Post (convMarkup e r ctx n scope) (fun d => Carries d (specAll n)) := by
  cases n with
  | leaf k t a =>
    -- an empty `Markup` (a leaf) is converted as a node without children is
    cases hk
    cases inFrag_leaf_text hq rfl
    rw [specAll_empty_leaf]
    exact convMarkup_carries e r hr ctx .markup [] a scope (fun x hx => nomatch hx)
  | inner k cs a =>
    cases hk
    obtain ⟨(hch : listChildrenOK .markup cs = true), hlex, hqc⟩ := inFrag_inner hq (by decide)
    rw [specAll_never_verbatim (k := .markup) cs a rfl]
    refine convMarkup_carries e r hr ctx .markup cs a scope (fun x hx => ⟨tokensAreLeavesL_mem hlex hx, fun _ => hqc x hx, ?_⟩)
    have := List.all_eq_true.mp hch x hx
    simp only [Bool.or_eq_true, beq_iff_eq, or_assoc] at this
    rcases this with h | h | h | h
    · exact Or.inl h
    · exact Or.inr (Or.inr (Or.inl (by unfold isExpr; rw [h]; rfl)))
    · exact Or.inr (Or.inl h)
    · exact Or.inr (Or.inr h)

end

/-- **The knot, by induction on the fuel**: at every level, the expression, pattern, parenthesis and markup
entry points carry what a tree of the fragment prescribes, and so do the expression and math-body entry
points in math mode for a tree of the math fragment. -/
theorem knot_frag (e : Env) : ∀ fuel, RecOK (knot e fuel) Q ∧ RecOKM (knot e fuel) QM
  | 0 => ⟨⟨fun _ _ _ _ _ => Post.rejected, fun _ _ _ _ _ => Post.rejected, fun _ _ _ _ _ _ => Post.rejected,
          fun _ _ _ _ _ _ => Post.rejected⟩, ⟨fun _ _ _ _ _ => Post.rejected, fun _ _ _ _ _ => Post.rejected⟩⟩
  | fuel+1 => by
    have ih := knot_frag e fuel
    exact ⟨⟨fun ctx c hn hx hq => convExpr_frag ih.1 ih.2 ctx hn c hx hq,
           fun ctx c hn hp hq => convPattern_frag ih.1 ih.2 ctx hn c hp hq,
           fun ctx c _ hk hd hq => convParenthesized_frag ih.1 ctx c hk hd hq,
           fun ctx c scope _ hk hq => convMarkup_frag ih.1 ctx c scope hk hq⟩,
          ⟨fun ctx c hm hx hq => convExprM_frag e (knot e fuel) ih.1 ih.2 ctx hm c hx hq,
           fun ctx c hm hk hq => convMath_frag e (knot e fuel) ih.1 ih.2 ctx hm c hk hq⟩⟩

end Typstyle
