import TypstyleModel.Proofs.Inf
/-! At a non-wrapping width, the texts and the line structure of the output depend only on the
*shape* of the document — not on any indentation amount.  This covers documents with `align`
(comments), for which the exact scaling theorem `bestInf_scale` does not apply. -/
namespace Pretty

def Doc.shape : Doc → Doc
  | .nest _ d => .nest 0 d.shape
  | .append a b => .append a.shape b.shape
  | .group d => .group d.shape
  | .flatAlt b f => .flatAlt b.shape f.shape
  | .align d => .align d.shape
  | d => d

def shapeCmd (c : Cmd) : Cmd := ⟨0, c.mode, c.doc.shape⟩

theorem flatNoHard_shape (d : Doc) : FlatNoHard d.shape ↔ FlatNoHard d := by
  induction d <;> simp only [Doc.shape, FlatNoHard, *]

/-- An atom without its indentation. -/
def Atom.erase : Atom → Atom
  | .txt s t => .txt s t
  | .nl _ => .nl 0

def zeroInd (c : Cmd) : Cmd := ⟨0, c.mode, c.doc⟩

theorem shape_cons_inv {cmds' : List Cmd} {c : Cmd} {rest : List Cmd}
    (h : cmds'.map zeroInd = (c :: rest).map shapeCmd) :
    ∃ i' rest', cmds' = ⟨i', c.mode, c.doc.shape⟩ :: rest' ∧ rest'.map zeroInd = rest.map shapeCmd := by
  cases cmds' with
  | nil => simp at h
  | cons c' rest' =>
    obtain ⟨i', m', d'⟩ := c'
    simp only [List.map_cons, List.cons.injEq, zeroInd, shapeCmd, Cmd.mk.injEq, true_and] at h
    exact ⟨i', rest', by rw [h.1.1, h.1.2], h.2⟩

/-- Texts and line structure depend only on the shapes and modes of the pending commands: not on
their indentations (which `align` sets to the current column), nor on the column. -/
theorem bestInf_erase_congr (pos pos' : Nat) (cmds cmds' : List Cmd)
    (h : cmds'.map zeroInd = cmds.map shapeCmd) :
    (bestInf pos' cmds').map Atom.erase = (bestInf pos cmds).map Atom.erase := by
  fun_induction bestInf pos cmds generalizing pos' cmds'
  case case1 =>
    cases cmds' with
    | nil => rw [bestInf]
    | cons _ _ => simp at h
  all_goals
    obtain ⟨i', rest', rfl, hr⟩ := shape_cons_inv h
    simp only [Doc.shape, bestInf, pick_map Doc.shape, List.map_cons, Atom.erase, List.cons.injEq, true_and]
  case case2 ih => exact ih pos' rest' hr
  case case3 ih | case4 ih | case6 ih | case7 ih => exact ih pos' _ (by simp [zeroInd, shapeCmd, hr])
  case case5 rest d m' ih =>
    rw [fittingInf_flat_congr (flatNoHard_shape d) rest]
    exact ih pos' _ (by simp [zeroInd, shapeCmd, hr, m'])
  case case8 =>
    obtain rfl : rest' = [] := by simpa using hr
    simp [bestInf, Atom.erase]
  case case9 ih =>
    obtain ⟨j', rest'', rfl, hr'⟩ := shape_cons_inv hr
    simp only [bestInf, List.map_cons, Atom.erase, List.cons.injEq, true_and]
    exact ih j' _ (by simp [zeroInd, shapeCmd, hr'])
  case case10 len _ ih => exact ih (pos' + len) rest' hr

theorem bestInf_shape (pos pos' : Nat) (cmds : List Cmd) :
    (bestInf pos' (cmds.map shapeCmd)).map Atom.erase = (bestInf pos cmds).map Atom.erase :=
  bestInf_erase_congr pos pos' cmds _ (by simp [zeroInd, shapeCmd])

theorem shape_scale (u : Nat) (d : Doc) : (scale u d).shape = d.shape := by
  induction d <;> simp only [scale, Doc.shape, *]

theorem bestInf_scale_same_lines (u : Nat) (d : Doc) :
    (bestInf 0 [⟨0, .brk, scale u d⟩]).map Atom.erase = (bestInf 0 [⟨0, .brk, d⟩]).map Atom.erase := by
  rw [← bestInf_shape 0 0 [⟨0, .brk, scale u d⟩], ← bestInf_shape 0 0 [⟨0, .brk, d⟩]]
  simp only [List.map_cons, List.map_nil, shapeCmd, shape_scale]

end Pretty
