import TypstyleModel.Proofs.KnotBase
/-! The knot (route M) in math mode: the expression entry point `convExprM_frag`, which dispatches on the kind as
`convExprImpl` does and turns membership in the fragment `inFragM` into the hypotheses of the construct's
`*_carries` theorem, and the math body. -/
namespace Typstyle
open Twin

variable {e : Env} {r : Rec} {ctx : Ctx} {k : Kind} {cs : List ANode} {a : Attrs}

section
variable (e) (r)

/-- In math mode a field access never takes a chain layout: the plain layout is for chains that end in
a call, the chain stylist for markup and code. -/
theorem tryDotChain_math_none (ctx : Ctx) (hm : ctx.mode = .math) (n : ANode) (hk : n.kind = .fieldAccess) :
    Post (tryDotChain e r ctx n) (fun o => o = none) := by
  unfold tryDotChain
  split
  · exact Post.pure rfl
  · obtain ⟨xs, hxs⟩ := resolveDotChain_cons n.depth n
    have hmode : (ctx.mode == .markup) = false ∧ (ctx.mode == .code || ctx.mode == .codeCont) = false := by
      rw [hm]; exact ⟨rfl, rfl⟩
    simp only [hxs, tryDotChainPlain_not_call (show n.kind ≠ .funcCall by rw [hk]; decide), ite_self, pure_bind,
      hmode.1, hmode.2, Bool.false_and, Bool.false_eq_true, ↓reduceIte]
    exact Post.pure rfl

theorem convFieldAccessM_carries (hrM : RecOKM r QM) (ctx : Ctx) (hm : ctx.mode = .math)
    (t : ANode) (rest : List ANode) (a : Attrs) (hda : a.disabled = false)
    (hxt : isExpr t = true) (hqt : QM t) (hrest : faRest 0 rest = true)
    (hlex : ANode.tokensAreLeavesL (t :: rest) = true)
    (hnc : (t :: rest).any (fun c => isCommentKind c.kind) = false) :
    Post (convFieldAccess e r ctx (.inner .fieldAccess (t :: rest) a))
      (fun d => Carries d (specAll (.inner .fieldAccess (t :: rest) a))) := by
  unfold convFieldAccess
  refine Post.bind (tryDotChain_math_none e r ctx hm _ rfl) (fun o ho => ?_)
  subst ho
  simp only [ANode.tokensAreLeavesL, Bool.and_eq_true] at hlex
  exact convFieldAccessPlain_nocomment hda hxt hrest hlex.2 hnc (hrM.expr ctx t hm hxt hqt)

end

/-- An empty row of math arguments arrives as a leaf (`mat(n: 1; 2)` has one before the `;`). -/
theorem specAll_empty_array_leaf (a : Attrs) : specAll (.leaf .array "" a) = {} :=
  specAll_empty_leaf .array a

theorem inFragMS_delim {c1 : ANode} (hx1 : isExpr c1 = true) (mid : List ANode)
    (hk : mid.all (fun c => c.kind == .math || c.kind == .space || isCommentKind c.kind) = true)
    (h : inFragMS false (mid ++ [c1]) = true) : (∀ c ∈ mid, midOK QM c) ∧ inFragM c1 = true := by
  induction mid with
  | nil =>
    simp only [List.nil_append, inFragMS, Bool.and_true] at h
    exact ⟨fun _ hc => (nomatch hc), mathChild_expr h hx1⟩
  | cons m mid ih =>
    simp only [List.cons_append, inFragMS, Bool.and_eq_true] at h
    simp only [List.all_cons, Bool.and_eq_true, Bool.or_eq_true, beq_iff_eq, or_assoc] at hk
    have hnh : (m.kind == .hash) = false := by
      rcases hk.1 with hm | hm | hm
      · rw [hm]; rfl
      · rw [hm]; rfl
      · exact comment_not_hash hm
    obtain ⟨hmid, hc1⟩ := ih hk.2 (hnh ▸ h.2)
    refine ⟨fun c hc => ?_, hc1⟩
    rcases List.mem_cons.mp hc with rfl | hc
    · exact ⟨mathChild_lex h.1 (inFrag_lex c) (inFragM_lex c),
        hk.1.imp_left fun hm => ⟨hm, mathChild_expr h.1 (by unfold isExpr; rw [hm]; rfl)⟩⟩
    · exact hmid c hc

/-- One level of the knot: the expression entry point in math mode. -/
theorem convExprM_frag (e : Env) (r : Rec) (hr : RecOK r Q) (hrM : RecOKM r QM) (ctx : Ctx) (hm : ctx.mode = .math)
    (n : ANode) (hx : isExpr n = true) (hq : inFragM n = true) :
    Post (convExpr e r ctx n) (fun d => Carries d (specAll n)) := by
  unfold convExpr
  refine Post.bind_any fun _ => ?_
  cases n with
  | leaf k t a =>
    by_cases hk : k = .math ∨ k = .array
    · -- an empty body, an empty row
      cases inFragM_leaf_text hq (by rcases hk with rfl | rfl <;> rfl)
      split
      · have hv : e.verbNode (.leaf k "" a) = e.verb "" := by rcases hk with rfl | rfl <;> rfl
        rw [hv, specAll_empty_leaf]
        exact Post.pure ((Carries.mkText e.wd .verbatim "").congr (tagS_empty _))
      · rename_i hd
        rcases hk with rfl | rfl
        · exact hrM.math ctx _ hm rfl hq
        · have hd' : a.disabled = false := Bool.eq_false_iff.mpr hd
          have := convArrayMH_carries e r hr hrM ctx hm [] a hd' rfl trivial rfl rfl
          rwa [specAll_enabled [] hd' rfl, specAllL_nil, ← specAll_empty_array_leaf a] at this
    · rw [inFragM_leaf_eq t a (fun h => hk (.inl h)) (fun h => hk (.inr h))] at hq
      exact leaf_expr_frag ctx k t a hx hq
  | inner k cs a =>
    have hkx : k.isExpr = true := hx
    refine Post.ite (fun hd => Post.pure (verb_inner_carries e hd (.inl hkx))) (fun hnd => ?_)
    have hd : a.disabled = false := Bool.eq_false_iff.mpr hnd
    have hs := inFragM_shape hq
    unfold fragShapeM at hs
    split at hs
    rotate_right
    · cases hs
    · obtain ⟨callee, acs, aa, rfl, hxc, hnf, hqc, hqa⟩ := mathCall_shape hq
      exact convFuncCallM_carries e r hrM ctx hm callee _ a hd hxc hnf hqc rfl
        (convArgsInMath_carries_all e r ctx (mathArgProducer_okA e r hr hrM) acs aa (inFragMA_lex false acs hqa)
          (inFragMA_okSeq ctx hm acs false hqa))
    all_goals
      have hcs := inFragM_children hq (by decide)
      have hlex := inFragMS_lex false cs hcs
      have hseq := inFragMS_seq cs false hcs
    · exact mathFlow_carries e ctx hm hd rfl false (attachProducer_ok e r hr hrM) hseq
    · exact mathFlow_carries e ctx hm hd rfl () (rootProducer_ok e r hr hrM) hseq
    · exact mathFlow_carries e ctx hm hd rfl () (fracProducer_ok e r hr hrM) hseq
    · exact hrM.math ctx _ hm rfl hq
    · exact convMathPrimes_carries e cs a hd hlex
    · unfold delimShapeB at hs
      split at hs
      · rename_i c0 rest
        split at hs
        · rename_i c1 hgl
          simp only [Bool.and_eq_true] at hs
          rw [dropLast_getLast rest c1 hgl] at hcs ⊢
          have hnh : (c0.kind == .hash) = false := Kind.beq_false_of_class (p := Kind.isExpr) hs.1.1 rfl
          simp only [inFragMS, Bool.and_eq_true] at hcs
          obtain ⟨hmid, hq1⟩ := inFragMS_delim hs.1.2 _ hs.2 (hnh ▸ hcs.2)
          exact convMathDelimited_carries e r hrM ctx hm c0 c1 rest.dropLast a hd hs.1.1 hs.1.2 (mathChild_expr hcs.1 hs.1.1) hq1 hmid
        · cases hs
      · cases hs
    · simp only [rowShapeB, Bool.and_eq_true, Bool.not_eq_true'] at hs
      exact convArrayMH_carries e r hr hrM ctx hm cs a hd hs.1.1 hseq hs.1.2 hs.2
    · simp only [Bool.and_eq_true, Bool.not_eq_true'] at hs
      cases cs with
      | nil => cases hs.1
      | cons t rest =>
        have hd1 := hs.1
        simp only [dotChildrenOK, Bool.and_eq_true] at hd1
        simp only [inFragMS, Bool.and_eq_true] at hcs
        exact convFieldAccessM_carries e r hrM ctx hm t rest a hd (chainHeadOK_expr hd1.1)
          (mathChild_expr hcs.1 (chainHeadOK_expr hd1.1)) hd1.2 hlex hs.2

theorem convMath_frag (e : Env) (r : Rec) (hr : RecOK r Q) (hrM : RecOKM r QM) (ctx : Ctx) (hm : ctx.mode = .math)
    (n : ANode) (hk : n.kind = .math) (hq : inFragM n = true) :
    Post (convMath e r ctx n) (fun d => Carries d (specAll n)) := by
  rcases inFragM_math_inner n hk hq with ⟨mcs, a, rfl⟩ | ⟨a, rfl⟩
  · exact convMath_carries e r hr hrM ctx hm mcs a (inFragMS_seq mcs false (inFragM_children hq (by decide)))
  · exact convMath_leaf_carries e r ctx a

end Typstyle
