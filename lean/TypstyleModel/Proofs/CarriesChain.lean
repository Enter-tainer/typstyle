import TypstyleModel.Proofs.CarriesList
import TypstyleModel.Proofs.ChainSafe
/-! The chain stylist (`ChainStylist`, binary-operator chains and dot chains) carries, in order, what the
operands, operators and comments of the chain contribute.

The invariant `CInvS` has two independent halves.  That the first item is not an attached comment
(`CInv`) holds whatever the converters do and is proved in `ChainSafe`; only the stream half
(`ItemsCarry`) is followed here, through `process` and `print_doc`. -/
namespace Typstyle
open Twin

def citemS : CItem → Streams
  | .body d | .op d | .comment d | .attached d => d.ss
  | .linebreak => {}
def citemGood : CItem → Bool
  | .body d | .op d | .comment d | .attached d => d.good
  | .linebreak => true
def citemsS : List CItem → Streams
  | [] => {}
  | it :: rest => (citemS it).app (citemsS rest)
def citemsGood : List CItem → Bool
  | [] => true
  | it :: rest => citemGood it && citemsGood rest

theorem citemsS_append (a b : List CItem) : citemsS (a ++ b) = (citemsS a).app (citemsS b) :=
  Streams.semL_append rfl (fun _ _ => rfl) a b

theorem citemsGood_append (a b : List CItem) : citemsGood (a ++ b) = (citemsGood a && citemsGood b) :=
  Bool.allL_append rfl (fun _ _ => rfl) a b

/-- Invariant of the chain stylist while it processes: the items are good and carry `sp`; the first
item is not an attached comment; `can_attach` only once there is an item; no `not` is pending. -/
structure CInvS (cs : CS) (canAttach : Bool) (sp : Streams) : Prop where
  good : citemsGood cs.items = true
  eq : citemsS cs.items = sp
  head : headOK cs.items = true
  att : canAttach = true → cs.items ≠ []
  st : cs.opState = false

def ItemsCarry (items : List CItem) (sp : Streams) : Prop := citemsGood items = true ∧ citemsS items = sp

theorem CInvS.empty : CInvS {} false {} := ⟨rfl, rfl, rfl, nofun, rfl⟩

/-- For an item made of a document `d`, `hit` is `Carries d s`. -/
theorem ItemsCarry.push {items : List CItem} {sp s : Streams} (h : ItemsCarry items sp) {it : CItem}
    (hit : citemGood it = true ∧ citemS it = s) : ItemsCarry (items ++ [it]) (sp.app s) := by
  refine ⟨?_, ?_⟩
  · rw [citemsGood_append, h.1]; simp [citemsGood, hit.1]
  · rw [citemsS_append, h.2]; simp [citemsS, hit.2]

theorem ItemsCarry.skip {items : List CItem} {sp : Streams} (h : ItemsCarry items sp) : ItemsCarry items (sp.app {}) := by
  rwa [Streams.app_empty]

theorem ItemsCarry.merge {items : List CItem} {sp s : Streams} (h : ItemsCarry items sp) {b fb : Doc}
    (hl : items.getLast? = some (.body b)) (hfb : Carries fb s) :
    ItemsCarry (items.dropLast ++ [.body (b ++ fb)]) (sp.app s) := by
  obtain ⟨hg, he⟩ := h
  rw [dropLast_getLast items _ hl, citemsGood_append] at hg
  rw [dropLast_getLast items _ hl, citemsS_append] at he
  simp only [citemsGood, citemGood, Bool.and_true, Bool.and_eq_true] at hg
  simp only [citemsS, citemS, Streams.app_empty] at he
  have := (ItemsCarry.push ⟨hg.1, rfl⟩ (it := .body (b ++ fb)) ((carries_self _ hg.2).app hfb))
  rwa [← Streams.app_assoc, he] at this

section process
variable {e : Env} {ctx : Ctx} {operandPred : ANode → Bool} {opConv : Bool → ANode → M (Bool × Option Doc)}
  {rhsConv fallback : Ctx → ANode → M (Option Doc)}

/-- What a child contributes for which the operator converter has no operator: a comment its text,
white space nothing, anything else what the operand converter makes of it — once an operator has been seen. -/
inductive NonOp (ctx : Ctx) (rhsConv : Ctx → ANode → M (Option Doc)) (seenOp : Bool) (c : ANode) : Streams → Prop
  | comment : isCommentKind c.kind = true → NonOp ctx rhsConv seenOp c (commentS c.text)
  | space : c.kind = .space → NonOp ctx rhsConv seenOp c {}
  | rhs {s : Streams} : isCommentKind c.kind = false → c.kind ≠ .space → seenOp = true →
      Post (rhsConv ctx c) (fun o => match o with | some d => Carries d s | none => s = {}) → NonOp ctx rhsConv seenOp c s
  | skip : isCommentKind c.kind = false → c.kind ≠ .space → seenOp = false → NonOp ctx rhsConv seenOp c {}

theorem NonOp.trivia {so : Bool} {c : ANode} (hlex : ANode.tokensAreLeaves c = true)
    (h : (isCommentKind c.kind || c.kind == .space) = true) : NonOp ctx rhsConv so c (specAll c) := by
  cases hc : isCommentKind c.kind with
  | true => rw [specAll_comment c hlex hc]; exact .comment hc
  | false =>
    have hs : c.kind = .space := by simpa [hc] using h
    rw [specAll_space c hlex hs]; exact .space hs

/-- One child of an operand node.  `R` is what is known of the operator converter's answer `p`; it comes
back in the conclusion, where the callers read the new state and `seen_op` off `p`. -/
theorem childStepM_carries {cs : CS} {ca so : Bool} {c : ANode} {sp s : Streams}
    {R : Bool × Option Doc → Prop} (h : ItemsCarry cs.items sp) (hop : Post (opConv cs.opState c) R)
    (hsome : ∀ st d, R (st, some d) → Carries d s) (hnone : ∀ st, R (st, none) → NonOp ctx rhsConv so c s) :
    Post (CS.childStepM e ctx opConv rhsConv (cs, ca, so) c)
      (fun r => ItemsCarry r.1.items (sp.app s) ∧ ∃ p, R p ∧ r.1.opState = p.1 ∧ r.2.2 = (so || p.2.isSome)) := by
  unfold CS.childStepM
  refine Post.bind hop ?_
  rintro ⟨ost, op?⟩ hR
  cases op? with
  | some op => exact Post.pure ⟨h.push (it := .op op) (hsome _ _ hR), _, hR, rfl, by simp⟩
  | none =>
    simp only
    cases hnone _ hR with
    | comment hk =>
      rw [if_pos hk]
      refine Post.bind (commentOK e c hk) (fun d hd => Post.pure ⟨?_, _, hR, rfl, by simp⟩)
      cases ca
      · exact h.push (it := .comment d) hd
      · exact h.push (it := .attached d) hd
    | space hk =>
      have h1 : isCommentKind c.kind = false := by rw [hk]; rfl
      have h2 : (c.kind == Kind.space) = true := by rw [hk]; rfl
      simp only [h1, Bool.false_eq_true, ↓reduceIte, h2]
      split
      · split
        · exact Post.pure ⟨h.push (it := .linebreak) ⟨rfl, rfl⟩, _, hR, rfl, by simp⟩
        · exact Post.pure ⟨h.skip, _, hR, rfl, by simp⟩
      · exact Post.pure ⟨h.skip, _, hR, rfl, by simp⟩
    | rhs h1 h2 hso hrhs =>
      have h2' : (c.kind == Kind.space) = false := by simpa using h2
      simp only [h1, Bool.false_eq_true, ↓reduceIte, h2', hso]
      refine Post.bind hrhs (fun o ho => ?_)
      cases o with
      | some d => exact Post.pure ⟨h.push (it := .body d) ho, _, hR, rfl, by simp⟩
      | none => rw [ho]; exact Post.pure ⟨h.skip, _, hR, rfl, by simp⟩
    | skip h1 h2 hso =>
      have h2' : (c.kind == Kind.space) = false := by simpa using h2
      simp only [h1, Bool.false_eq_true, ↓reduceIte, h2', hso]
      exact Post.pure ⟨h.skip, _, hR, rfl, by simp⟩

/-- `process` on the node `n` adds `s` to the items and leaves no `not` pending. -/
def NodeCarries (step : CS × Bool → ANode → M (CS × Bool)) (n : ANode) (s : Streams) : Prop :=
  ∀ (acc : CS × Bool) (sp : Streams), ItemsCarry acc.1.items sp → acc.1.opState = false →
    Post (step acc n) (fun r => ItemsCarry r.1.items (sp.app s) ∧ r.1.opState = false)

/-- An operand node: its first child `t`, an expression, was laid out as the inner chain and is skipped (the
operator converter has no operator for it, and no operator has been seen); the other children add `s`. -/
theorem nodeStepM_operand_carries {k : Kind} {t : ANode} {rest : List ANode} {a : Attrs} {s : Streams}
    (hp : operandPred (.inner k (t :: rest) a) = true) (hop : ∀ st, Post (opConv st t) (fun p => p = (st, none)))
    (hx : isExpr t = true)
    (hrest : ∀ (acc : CS × Bool × Bool) (sp : Streams), ItemsCarry acc.1.items sp → acc.1.opState = false → acc.2.2 = false →
      Post (rest.foldlM (CS.childStepM e ctx opConv rhsConv) acc) (fun r => ItemsCarry r.1.items (sp.app s) ∧ r.1.opState = false)) :
    NodeCarries (CS.nodeStepM e ctx operandPred opConv rhsConv fallback) (.inner k (t :: rest) a) s := by
  rintro ⟨cs, ca⟩ sp h hst
  have h1 : isCommentKind t.kind = false := Bool.eq_false_iff.mpr fun hc => by
    rw [isExpr, comment_not_class (p := Kind.isExpr) hc rfl rfl] at hx; cases hx
  simp only [CS.nodeStepM, hp, ↓reduceIte, ANode.children, List.foldlM_cons, bind_assoc]
  refine Post.bind (childStepM_carries (s := {}) h (hop _) (fun _ _ hR => by cases hR)
    (fun _ _ => .skip h1 (Kind.ne_of_class hx rfl) rfl)) ?_
  rintro acc ⟨hI, p, rfl, ho, hso⟩
  exact Post.map (hrest acc sp (by simpa using hI) (ho.trans hst) (by simpa using hso))

theorem nodeStepM_fallback_carries {node : ANode} {s : Streams} (hp : operandPred node = false)
    (hfb : Post (fallback ctx node) (fun o => match o with | some d => Carries d s | none => s = {})) :
    NodeCarries (CS.nodeStepM e ctx operandPred opConv rhsConv fallback) node s := by
  rintro ⟨cs, ca⟩ sp h hst
  simp only [CS.nodeStepM, hp, Bool.false_eq_true, ↓reduceIte]
  refine Post.bind hfb (fun o hd => ?_)
  cases o with
  | none => rw [hd]; exact Post.pure ⟨h.skip, hst⟩
  | some fb =>
    simp only
    split
    · rename_i b hl
      exact Post.pure ⟨h.merge hl hd, hst⟩
    · exact Post.pure ⟨h.push (it := .body fb) hd, hst⟩

theorem depth_pos (n : ANode) : 1 ≤ n.depth := by
  cases n <;> simp [ANode.depth] <;> omega

theorem depth_le_depthL {c : ANode} {cs : List ANode} (h : c ∈ cs) : c.depth ≤ ANode.depthL cs := by
  induction cs with
  | nil => cases h
  | cons x xs ih =>
    simp only [ANode.depthL]
    rcases List.mem_cons.mp h with rfl | h'
    · exact Nat.le_max_left _ _
    · exact Nat.le_trans (ih h') (Nat.le_max_right _ _)

/-- `chain` is the chain resolved from `n`, outermost node first (`resolve_dot_chain`,
`resolve_binary_chain`): while a node is a link, the chain goes on with its first expression child. -/
inductive IsChain (link : ANode → Bool) : ANode → List ANode → Prop
  | last {n : ANode} : (link n = true → firstWhere n isExpr = none) → IsChain link n [n]
  | cons {n t : ANode} {chain : List ANode} : link n = true → firstWhere n isExpr = some t → IsChain link t chain →
      IsChain link n (n :: chain)

theorem IsChain.eq_cons {link : ANode → Bool} {n : ANode} {chain : List ANode} (h : IsChain link n chain) :
    ∃ xs, chain = n :: xs := by
  cases h with
  | last _ => exact ⟨[], rfl⟩
  | cons _ _ _ => exact ⟨_, rfl⟩

/-- The body of both resolvers, `res` being the recursive call. -/
theorem IsChain.step {link : ANode → Bool} {n : ANode} {fuel : Nat} {res : ANode → List ANode} (h : n.depth ≤ fuel + 1)
    (ih : ∀ t, t.depth ≤ fuel → IsChain link t (res t)) :
    IsChain link n (n :: if link n then match firstWhere n isExpr with | some t => res t | none => [] else []) := by
  cases hl : link n with
  | false => exact .last (fun h => by rw [hl] at h; cases h)
  | true =>
    cases hf : firstWhere n isExpr with
    | none => exact .last (fun _ => hf)
    | some t =>
      refine .cons hl hf (ih t ?_)
      cases n with
      | leaf k tx a => simp [firstWhere, ANode.children] at hf
      | inner k cs a =>
        have := depth_le_depthL (List.mem_of_find?_eq_some hf)
        simp only [ANode.depth, ANode.children] at h this
        omega

theorem resolveDotChain_isChain : ∀ {fuel : Nat} {n : ANode}, n.depth ≤ fuel →
    IsChain (fun n => n.kind == .fieldAccess || n.kind == .funcCall) n (resolveDotChain fuel n)
  | 0, n, h => absurd h (by have := depth_pos n; omega)
  | _+1, _, h => IsChain.step h fun _ ht => resolveDotChain_isChain ht

theorem resolveBinaryChain_isChain (prec : Nat) : ∀ {fuel : Nat} {n : ANode}, n.depth ≤ fuel →
    IsChain (fun n => n.kind == .binary && precOf (binaryOp n) == prec) n (resolveBinaryChain prec fuel n)
  | 0, n, h => absurd h (by have := depth_pos n; omega)
  | _+1, _, h => IsChain.step h fun _ ht => resolveBinaryChain_isChain prec ht

/-- A node a chain of the fragment `Q` may go on with: an expression, not marked `@typstyle off` if it is of a
kind that links (the resolvers do not look at the mark, while a marked node prescribes its source text). -/
structure ChainNode (Q : ANode → Prop) (linkKind : Kind → Prop) (n : ANode) : Prop where
  expr : isExpr n = true
  lex : ANode.tokensAreLeaves n = true
  q : Q n
  enabled : linkKind n.kind → n.attrs.disabled = false

/-- The loop of `process` over a resolved chain, innermost node first.  `Good` is what is known of a node
of the chain: a link has a first expression child, to which `Good` passes and after which the link adds the
rest `s` of what it prescribes; so the chain ends at a node that is no link. -/
theorem chain_carries {link : ANode → Bool} {Good : ANode → Prop}
    (hlast : ∀ n, Good n → link n = false → NodeCarries (CS.nodeStepM e ctx operandPred opConv rhsConv fallback) n (specAll n))
    (hlink : ∀ n, Good n → link n = true → ∃ t s, firstWhere n isExpr = some t ∧ Good t ∧
      specAll n = (specAll t).app s ∧ NodeCarries (CS.nodeStepM e ctx operandPred opConv rhsConv fallback) n s)
    {n : ANode} {chain : List ANode} (hc : IsChain link n chain) (hn : Good n) (acc : CS × Bool) (sp : Streams)
    (h : CInvS acc.1 acc.2 sp) :
    Post (chain.reverse.foldlM (CS.nodeStepM e ctx operandPred opConv rhsConv fallback) acc)
      (fun r => CInvS r.1 r.2 (sp.app (specAll n))) := by
  refine (Post.and (P := fun r => ItemsCarry r.1.items (sp.app (specAll n)) ∧ r.1.opState = false) ?_
    (foldlM_nodeStepM_inv _ acc ⟨h.head, h.att⟩)).mono (fun r hr => ⟨hr.1.1.1, hr.1.1.2, hr.2.1, hr.2.2, hr.1.2⟩)
  have hI : ItemsCarry acc.1.items sp := ⟨h.good, h.eq⟩
  have hst := h.st
  clear h
  induction hc generalizing acc sp with
  | @last n hstuck =>
    simp only [List.reverse_cons, List.reverse_nil, List.nil_append, List.foldlM_cons, List.foldlM_nil, bind_pure]
    cases hl : link n with
    | false => exact hlast n hn hl acc sp hI hst
    | true =>
      obtain ⟨_, _, hf, _⟩ := hlink n hn hl
      cases hf.symm.trans (hstuck hl)
  | cons hl hf _ ih =>
    obtain ⟨_, s, hf', ht, hs, hstep⟩ := hlink _ hn hl
    cases hf'.symm.trans hf
    rw [List.reverse_cons, List.foldlM_append, hs, ← Streams.app_assoc]
    refine Post.bind (ih ht acc sp hI hst) (fun r hr => ?_)
    simp only [List.foldlM_cons, List.foldlM_nil, bind_pure]
    exact hstep r _ hr.1 hr.2

end process

theorem DocsCarry.appendLast {docs : List Doc} {sp s : Streams} (h : DocsCarry docs sp) {d : Doc} (hd : Carries d s)
    (hne : docs ≠ []) : DocsCarry (appendLast docs d) (sp.app s) := by
  unfold Typstyle.appendLast
  cases hl : docs.getLast? with
  | none => exact absurd (List.getLast?_eq_none_iff.mp hl) hne
  | some l =>
    obtain ⟨hg, he⟩ := h
    rw [dropLast_getLast docs l hl, docsGood_append] at hg
    rw [dropLast_getLast docs l hl, docsS_append] at he
    simp only [docsGood, Bool.and_true, Bool.and_eq_true] at hg
    simp only [docsS, Streams.app_empty] at he
    have := DocsCarry.snoc ⟨hg.1, rfl⟩ ((carries_self _ hg.2).app hd)
    rwa [← Streams.app_assoc, he] at this

/-- Invariant of the loop of `print_doc`: while no document is open, the stylist is `leading`. -/
def PInv (acc : List Doc × Bool × Bool × Bool) (sp : Streams) : Prop :=
  DocsCarry acc.1 sp ∧ (acc.1 = [] → acc.2.2.1 = true)

section print
variable {opSep : Doc} {simple spaceOp : Bool}

theorem printStep_inv (hsep : Carries opSep {}) {acc : List Doc × Bool × Bool × Bool} {sp : Streams}
    (h : PInv acc sp) {it : CItem} (hg : citemGood it = true) (hna : acc.1 = [] → headOK [it] = true) :
    DocsCarry (CS.printStep opSep simple spaceOp acc it).1 (sp.app (citemS it)) ∧ (CS.printStep opSep simple spaceOp acc it).1 ≠ [] := by
  refine ⟨?_, printStep_ne_nil acc it fun he => ⟨h.2 he, hna he⟩⟩
  obtain ⟨docs, hb, ld, sa⟩ := acc
  obtain ⟨h1, h3⟩ := h
  have hld : ld = false → docs ≠ [] := fun hl hd => Bool.false_ne_true (hl.symm.trans (h3 hd))
  have spaced : ∀ c : Doc, c.good = true → Carries (if sa then Twin.space ++ c else c) c.ss := by
    intro c hc
    split
    · simpa using Carries.space.app (carries_self _ hc)
    · exact ⟨hc, rfl⟩
  cases it with
  | body b =>
    cases ld
    · exact h1.appendLast (carries_self _ hg) (hld rfl)
    · exact h1.snoc (carries_self _ hg)
  | op o =>
    have step1 : DocsCarry (if !((hb && ld) || simple) then docs ++ [opSep] else docs) sp := by
      split
      · simpa using h1.snoc hsep
      · exact h1
    show DocsCarry (if spaceOp then _ else _) (sp.app o.ss)
    split
    · have := step1.snoc ((carries_self _ hg).app Carries.space)
      rwa [Streams.app_empty] at this
    · exact step1.snoc (carries_self _ hg)
  | comment c =>
    cases ld
    · exact h1.appendLast (spaced c hg) (hld rfl)
    · exact h1.snoc (carries_self _ hg)
  | attached c => exact h1.appendLast (spaced c hg) (fun hd => by have := hna hd; simp [headOK] at this)
  | linebreak => exact h1.snoc Carries.hardline

theorem foldl_printStep_inv (hsep : Carries opSep {}) (items : List CItem)
    (acc : List Doc × Bool × Bool × Bool) (sp : Streams) (h : PInv acc sp) (hg : citemsGood items = true)
    (hhead : acc.1 = [] → headOK items = true) :
    PInv (items.foldl (CS.printStep opSep simple spaceOp) acc) (sp.app (citemsS items)) := by
  induction items generalizing acc sp with
  | nil => simpa [citemsS] using h
  | cons it rest ih =>
    simp only [citemsGood, Bool.and_eq_true] at hg
    have h' := printStep_inv (simple := simple) (spaceOp := spaceOp) hsep h hg.1 (fun he => by rw [← headOK_cons]; exact hhead he)
    simpa [citemsS, Streams.app_assoc] using ih _ _ ⟨h'.1, fun he => absurd he h'.2⟩ hg.2 (fun he => absurd he h'.2)

end print

theorem chain_print_carries (e : Env) {cs : CS} {ca : Bool} {sp : Streams} (nbs spaceOp : Bool) (h : CInvS cs ca sp) :
    Post (cs.print e nbs spaceOp) (fun d => Carries d sp) := by
  unfold CS.print
  simp only
  have hf := (foldl_printStep_inv (opSep := if spaceOp then Twin.line else Twin.line_) (simple := cs.opNum == 1 && nbs && !cs.hasComment)
    (spaceOp := spaceOp) (Carries.ite Carries.line Carries.line_) cs.items ([], false, true, true) {} ⟨⟨rfl, rfl⟩, fun _ => rfl⟩ h.good (fun _ => h.head)).1
  rw [Streams.empty_app, h.eq] at hf
  split
  · exact Post.rejected
  · rename_i first rest hdocs
    rw [hdocs] at hf
    obtain ⟨hgd, rfl⟩ := hf
    simp only [docsGood, Bool.and_eq_true] at hgd
    have hr : Carries (concatDocs rest) (docsS rest) := DocsCarry.concat ⟨hgd.2, rfl⟩
    split
    · exact Post.pure ((carries_self _ hgd.1).app hr).grp
    · exact Post.pure ((carries_self _ hgd.1).app hr.nstTab).grp

end Typstyle
