import TypstyleModel.Proofs.CarriesComment
/-! Token preservation ("emits"): generic lemmas for documents and for the flow stylist,
on the real model (tagged `Doc`, monad `M`). -/
namespace Typstyle
open Pretty

def _root_.Pretty.Tag.rigid : Tag → Bool
  | .tok | .syn | .verbatim | .prose | .lit | .plit => true
  | .soft | .comment => false

/-- Non-blank characters of the atoms that are real tokens. -/
def rigid : List Atom → List Char
  | [] => []
  | .txt s t :: r => (if t.rigid then s.toList.filter (fun c => !isWs c) else []) ++ rigid r
  | .nl _ :: r => rigid r

theorem rigid_append (xs ys : List Atom) : rigid (xs ++ ys) = rigid xs ++ rigid ys := by
  induction xs with
  | nil => rfl
  | cons x xs ih => cases x <;> simp [rigid, ih]

/-- Every layout of `d`, in either mode, carries exactly the token text `s`. -/
def Emits (d : Doc) (s : List Char) : Prop := ∀ m xs, Lay m d xs → rigid xs = s
abbrev Soft (d : Doc) : Prop := Emits d []

theorem Emits.app {a b sa sb} (ha : Emits a sa) (hb : Emits b sb) : Emits (a ++ b) (sa ++ sb) :=
  LayAll.app rigid_append ha hb

theorem Emits.nil : Emits .nil [] := by
  intro m xs h; cases h; rfl

theorem Emits.hardline : Emits hardline [] := by
  intro m xs h; cases h; rfl

def nb (s : String) : List Char := s.toList.filter (fun c => !isWs c)

theorem Emits.mkText (wd : String → Nat) (t : Tag) (s : String) :
    Emits (mkText wd t s) (if t.rigid then nb s else []) := by
  intro m xs h
  rcases lay_mkText_cases h with ⟨rfl, rfl⟩ | rfl <;> simp [rigid, nb]

theorem Emits.space : Soft space := by
  intro m xs h; cases h; simp [rigid, Tag.rigid]

theorem Emits.grp {d s} (h : Emits d s) : Emits d.grp s := LayAll.grp h

theorem Emits.nst {d s n} (h : Emits d s) : Emits (d.nst n) s := LayAll.nst h

theorem Emits.falt {b f s} (hb : Emits b s) (hf : Emits f s) : Emits (Doc.falt b f) s := LayAll.falt hb hf

theorem Emits.line : Soft line := Emits.falt Emits.hardline Emits.space
theorem Emits.line_ : Soft line_ := Emits.falt Emits.hardline Emits.nil

theorem Emits.enclose {d a b s sa sb} (hd : Emits d s) (ha : Emits a sa) (hb : Emits b sb) :
    Emits (d.enclose a b) (sa ++ s ++ sb) := (ha.app hd).app hb

theorem Emits.repeatN {d} (h : Soft d) (n : Nat) : Soft (repeatN d n) := by
  induction n with
  | zero => exact Emits.nil
  | succ n ih => simpa [Pretty.repeatN] using ih.app h

/-- Token text of a member of the printer's document family, at every unit. -/
def TEmits (d : Twin.Doc) (s : List Char) : Prop := ∀ u, Emits (d.fam u) s
abbrev TSoft (d : Twin.Doc) : Prop := TEmits d []

theorem TEmits.mkText (wd : String → Nat) (t : Tag) (s : String) : TEmits (Twin.mkText wd t s) (if t.rigid then nb s else []) :=
  fun _ => Emits.mkText wd t s

theorem TEmits.tok (e : Env) (s : String) : TEmits (e.tok s) (nb s) := TEmits.mkText e.wd .tok s
theorem TEmits.syn (e : Env) (s : String) : TEmits (e.syn s) (nb s) := TEmits.mkText e.wd .syn s
theorem TEmits.verb (e : Env) (s : String) : TEmits (e.verb s) (nb s) := TEmits.mkText e.wd .verbatim s
theorem TEmits.soft (e : Env) (s : String) : TSoft (e.soft s) := TEmits.mkText e.wd .soft s

theorem TEmits.app {a b sa sb} (ha : TEmits a sa) (hb : TEmits b sb) : TEmits (a ++ b) (sa ++ sb) :=
  fun u => Emits.app (ha u) (hb u)
theorem TEmits.nil : TEmits .nil [] := fun _ => Emits.nil
theorem TEmits.hardline : TEmits Twin.hardline [] := fun _ => Emits.hardline
theorem TEmits.space : TSoft Twin.space := fun _ => Emits.space
theorem TEmits.grp {d s} (h : TEmits d s) : TEmits d.grp s := fun u => Emits.grp (h u)
theorem TEmits.nstTab {d s} (h : TEmits d s) : TEmits d.nstTab s := fun u => Emits.nst (h u)
theorem TEmits.falt {b f s} (hb : TEmits b s) (hf : TEmits f s) : TEmits (Twin.Doc.falt b f) s :=
  fun u => Emits.falt (hb u) (hf u)

theorem commentOnly_soft {m : Mode} {d : Doc} {xs : List Atom} (hl : Lay m d xs) : d.commentOnly = true → rigid xs = [] := by
  induction hl with
  | nil => intro _; rfl
  | text => intro h; simp only [Doc.commentOnly, beq_iff_eq] at h; simp [rigid, h, Tag.rigid]
  | hardline => intro _; rfl
  | append _ _ iha ihb =>
    intro h; simp only [Doc.commentOnly, Bool.and_eq_true] at h
    rw [rigid_append, iha h.1, ihb h.2]; rfl
  | groupSame _ ih => exact ih
  | groupFlat _ ih => exact ih
  | flatAltB _ _ => intro h; cases h
  | flatAltF _ _ => intro h; cases h
  | nest _ ih => exact ih
  | align _ ih => exact ih

/-- A converted comment carries no token text (comments are accounted for separately, C06): it consists
of comment text only (`convComment_ok`). -/
theorem convComment_soft (e : Env) (n : ANode) : Post (convComment e n) (fun c => Soft c.d) :=
  Post.mono (convComment_ok e n) (fun _ hc _ _ hl => commentOnly_soft hl hc.1)

theorem convCommentT_soft (e : Env) (n : ANode) : Post (convCommentT e n) TSoft := by
  unfold convCommentT
  exact Post.bind (convComment_soft e n) (fun c hc => Post.pure (fun _ => hc))

theorem Flow.push_emits {f : Flow} {d s t before after} (hf : TEmits f.doc s) (hd : TEmits d t) :
    TEmits (f.push d before after).doc (s ++ t) := by
  unfold Flow.push
  split
  · simpa using (hf.app TEmits.space).app hd
  · exact hf.app hd

theorem Flow.pushComment_emits {f : Flow} {d s isBlock} (hf : TEmits f.doc s) (hd : TSoft d) :
    TEmits (f.pushComment d isBlock).doc s := by
  unfold Flow.pushComment
  split
  · simpa using Flow.push_emits hf hd
  · split
    · simpa using Flow.push_emits (f := { f with spaceAfter := true }) hf hd
    · simpa using Flow.push_emits hf hd

/-- What one child of a flow-like node contributes; `sem` is the contribution of a converted child. -/
def flowContrib (sem : ANode → List Char) (c : ANode) : List Char :=
  let k := c.kind
  if k.isKeyword && !(k == .none_ || k == .auto_) then nb c.text
  else if isCommentKind k then []
  else if k == .hash then nb "#"
  else sem c

/-- Contract of a construct's producer closure. -/
def ProducerOK {σ} (producer : σ → Ctx → ANode → M (σ × Option FlowItem)) (sem : ANode → List Char) : Prop :=
  ∀ st c child, Post (producer st c child) fun r =>
    match r.2 with
    | some it => TEmits it.doc (sem child)
    | none => sem child = []

theorem flowStepM_emits {σ} {e : Env} {ctx : Ctx} {producer : σ → Ctx → ANode → M (σ × Option FlowItem)} {sem}
    (hp : ProducerOK producer sem) (hsp : ∀ c : ANode, c.kind = .space → sem c = [])
    (acc : FSt σ) (s : List Char) (c : ANode) (h : TEmits acc.flow.doc s) :
    Post (flowStepM e ctx producer acc c) (fun acc' => TEmits acc'.flow.doc (s ++ flowContrib sem c)) := by
  -- the cases of the step, made before it is unfolded (`split` on the unfolded term is dear)
  by_cases h1 : (c.kind.isKeyword && !(c.kind == .none_ || c.kind == .auto_)) = true
  · simp only [flowStepM, flowContrib, h1, ↓reduceIte]
    exact Post.pure (Flow.push_emits h (TEmits.tok e _))
  by_cases h2 : isCommentKind c.kind = true
  · simp only [flowStepM, flowContrib, h1, h2, Bool.false_eq_true, ↓reduceIte]
    exact Post.bind (convCommentT_soft e c) (fun d hd => Post.pure (by simpa using Flow.pushComment_emits h hd))
  by_cases h3 : (acc.peekLC && c.kind == .space && hasLinebreak c.text) = true
  · have hks : c.kind = .space := by
      simp only [Bool.and_eq_true, beq_iff_eq] at h3; exact h3.1.2
    have h4 : (c.kind == Kind.hash) = false := by rw [hks]; rfl
    simp only [flowStepM, flowContrib, h1, h2, h3, h4, hsp c hks, Bool.false_eq_true, ↓reduceIte]
    exact Post.pure (by simpa using Flow.push_emits h TEmits.hardline)
  by_cases h4 : (c.kind == Kind.hash) = true
  · simp only [flowStepM, flowContrib, h1, h2, h3, h4, Bool.false_eq_true, ↓reduceIte]
    split
    · exact Post.pure (by simpa using Flow.push_emits h (TEmits.syn e "#"))
    · exact Post.rejected
  · simp only [flowStepM, flowContrib, h1, h2, h3, h4, Bool.false_eq_true, ↓reduceIte]
    refine Post.bind (hp _ _ _) (fun r hr => ?_)
    split
    next it heq =>
      simp only [heq] at hr
      exact Post.pure (Flow.push_emits h hr)
    next heq =>
      simp only [heq] at hr
      exact Post.pure (by simpa [hr] using h)

theorem flowM_emits {σ} {e : Env} {ctx : Ctx} {producer : σ → Ctx → ANode → M (σ × Option FlowItem)} {sem}
    (hp : ProducerOK producer sem) (hsp : ∀ c : ANode, c.kind = .space → sem c = [])
    (children : List ANode) (st : σ) :
    Post (flowM e ctx children st producer) (fun d => TEmits d (children.flatMap (flowContrib sem))) := by
  unfold flowM
  refine Post.bind (Post.foldlM_ghost (gstep := fun s x => s ++ flowContrib sem x) (I := fun acc s _ => TEmits acc.flow.doc s)
    (fun acc s x _ h => flowStepM_emits (e := e) (ctx := ctx) hp hsp acc s x h) children { st := st } [] TEmits.nil)
    (fun acc hacc => Post.pure ?_)
  rw [List.flatMap_eq_foldl]; exact hacc

end Typstyle
