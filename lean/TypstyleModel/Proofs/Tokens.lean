import TypstyleModel.Model.Printer.Knot
/-! What a certificate gives (C01 T1.3, and the same for the other streams): every layout of a certified
family — at every indent unit, hence (R1) at every width — carries exactly the text the tree prescribes.
For a tree without comments and `@typstyle off` regions the prescribed tokens are the kept characters
of its text. -/
namespace Typstyle
open Pretty

/-- `tokensCertified`, `commentsCertified`, `proseCertified`, `literalsCertified`, `verbatimCertified` and the
two `…CertifiedR` unfold to the Boolean in `h`, one for each stream. -/
theorem stream_certified {d : Twin.Doc} {c : Stream} {s : String} (h : (d.good && d.ss.get c == s) = true)
    (u : Nat) (m : Mode) (xs : List Atom) (hl : Lay m (d.fam u) xs) : streamText c xs = s.toList := by
  simp only [Bool.and_eq_true, beq_iff_eq] at h
  exact h.2 ▸ d.emits h.1 u c m xs hl

mutual
/-- With reordering off the reordered tree is the tree itself. -/
theorem reorderTree_off (cfg : PConfig) (h : cfg.reorder = false) : ∀ t : ANode, reorderTree cfg t = t
  | .leaf _ _ _ => rfl
  | .inner k cs a => by
    simp only [reorderTree, h, Bool.and_false, Bool.false_and]
    split
    · rfl
    · rw [reorderTreeL_off cfg h cs]
theorem reorderTreeL_off (cfg : PConfig) (h : cfg.reorder = false) : ∀ ts : List ANode, reorderTreeL cfg false ts = ts
  | [] => rfl
  | c :: cs => by
    simp only [reorderTreeL, Bool.false_and]
    rw [reorderTree_off cfg h c, reorderTreeL_off cfg h cs]
    rfl
end

theorem keepOf_append (a b : String) : Pretty.keepOf (a ++ b) = Pretty.keepOf a ++ Pretty.keepOf b := by
  simp [Pretty.keepOf, String.toList_append, List.filter_append, String.ofList_append]

theorem keepOf_blank (t : String) (h : t.toList.all isWs = true) : Pretty.keepOf t = "" := by
  have : t.toList.filter Pretty.keepChar = [] :=
    List.filter_eq_nil_iff.mpr fun c hc => by simp [Pretty.keepChar, List.all_eq_true.mp h c hc]
  rw [Pretty.keepOf, this]

mutual
theorem specToks_plain_node : ∀ t : ANode, t.noCommentNoVerbatim = true → t.blankSpaces = true →
    specToks t = Pretty.keepOf t.intoText
  | .leaf k t a, h, hb => by
    simp only [ANode.noCommentNoVerbatim, Bool.not_eq_true'] at h
    simp only [specToks, h, Bool.false_or, ANode.intoText]
    split
    · rename_i hk
      simp only [ANode.blankSpaces, hk] at hb
      exact (keepOf_blank t (by simpa using hb)).symm
    · rfl
  | .inner k cs a, h, hb => by
    simp only [ANode.noCommentNoVerbatim, Bool.and_eq_true, Bool.not_eq_true'] at h
    simp only [ANode.blankSpaces] at hb
    simp [specToks, h.1, ANode.intoText, specToks_plain_list cs h.2 hb]
theorem specToks_plain_list : ∀ ts : List ANode, ANode.noCommentNoVerbatimL ts = true → ANode.blankSpacesL ts = true →
    specToksL ts = Pretty.keepOf (ANode.intoTextL ts)
  | [], _, _ => rfl
  | c :: cs, h, hb => by
    simp only [ANode.noCommentNoVerbatimL, Bool.and_eq_true] at h
    simp only [ANode.blankSpacesL, Bool.and_eq_true] at hb
    simp [specToksL, ANode.intoTextL, keepOf_append, specToks_plain_node c h.1 hb.1, specToks_plain_list cs h.2 hb.2]
end

end Typstyle
