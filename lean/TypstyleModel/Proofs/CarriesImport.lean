import TypstyleModel.Proofs.CarriesList
import TypstyleModel.Proofs.Import
/-! Import statements (`import.rs`): the stable sort of the flattened node list orders the items among
themselves exactly as sorting them alone does (`filter_stableSort` in `Import.lean`), and the printed
statement carries the prefix and the items in that order. -/
namespace Typstyle
open Twin

theorem sortedBy_of_sortedB {key : ANode → String} {l : List ANode} (h : sortedB key l = true) : SortedBy key l := by
  induction l with
  | nil => exact List.Pairwise.nil
  | cons x xs ih =>
    simp only [sortedB, Bool.and_eq_true, List.all_eq_true, decide_eq_true_eq] at h
    exact List.pairwise_cons.mpr ⟨h.1, ih h.2⟩

theorem specAllL_take_space {l : List ANode} (hlex : ANode.tokensAreLeavesL l = true) {k : Nat}
    (h : (l[k]?.map (·.kind == .space)).getD false = true) : specAllL (l.take (k + 1)) = specAllL (l.take k) := by
  rw [List.take_add_one]
  cases hi : l[k]? with
  | none => simp [hi] at h
  | some sp =>
    rw [hi] at h
    rw [Option.toList_some, specAllL_snoc, specAll_space sp (tokensAreLeavesL_mem hlex (List.mem_of_getElem? hi)) (by simpa using h),
      Streams.app_empty]

variable {Q : ANode → Prop} {e : Env} {r : Rec} {ctx : Ctx}

/-- What the fragment guarantees of the nodes of an import item. -/
structure ImpQ (Q : ANode → Prop) : Prop where
  inner : ∀ x, Q x → isImportItem x = true → ∃ ics ia, x = .inner x.kind ics ia ∧ ANode.tokensAreLeavesL ics = true ∧ ∀ c ∈ ics, Q c

theorem importPathProducer_ok : ProducerS (importPathProducer e) specAll (ChildOK Q) := fun _ _ child _ hok =>
  Post.ite (fun hk => Post.map (synLeaf_carries e child "." hok.1 (plain_of_beq hk dot_plain))) fun _ =>
  Post.ite (fun hk => Post.pure (ident_carries e hok.1 (beq_iff_eq.mp hk))) fun _ =>
  space_or_reject hok.1

theorem importItem_flow (hI : ImpQ Q) (hnm : NM ctx) {x : ANode} (hq : Q x) (hi : isImportItem x = true)
    {producer : Unit → Ctx → ANode → M (Unit × Option FlowItem)}
    (hp : ProducerS producer specAll (ChildOK Q)) : Post (flowM e ctx x.children () producer) (fun d => Carries d (specAll x)) := by
  obtain ⟨ics, ia, hx, hlex, hqc⟩ := hI.inner x hq hi
  rw [hx]
  have hne : (x.kind.isExpr || x.kind == .math || x.kind == .code || x.kind == .destructuring || x.kind == .codeBlock) = false ∧
      x.kind ≠ .raw := by
    simp only [isImportItem, Bool.or_eq_true, beq_iff_eq] at hi
    rcases hi with hk | hk <;> rw [hk] <;> exact ⟨rfl, by decide⟩
  exact flow_construct_carries e ctx _ ics ia () producer hp (isVerbatimNode_never ics ia hne.1) hne.2 hlex hqc hnm

theorem importRenamedProducer_ok (hI : ImpQ Q) : ProducerS (importRenamedProducer e) specAll (ChildOK Q) := fun _ _ child hnm hok =>
  Post.ite (fun hk => Post.map (importItem_flow hI hnm hok.2 (by simp [isImportItem, beq_iff_eq.mp hk]) importPathProducer_ok)) fun _ =>
  Post.ite (fun hk => Post.pure (ident_carries e hok.1 (beq_iff_eq.mp hk))) fun _ =>
  space_or_reject hok.1

/-- A node of the flattened item list: an import item of the fragment, a comment, or what the list stylist ignores. -/
def importItemOK (Q : ANode → Prop) (x : ANode) : Prop :=
  ANode.tokensAreLeaves x = true ∧ Q x ∧ (isImportItem x = true ∨ isCommentKind x.kind = true ∨ isIgnorable x = true)

theorem importItem_ok (hI : ImpQ Q) : CheckerS (importItem e) specAll (importItemOK Q) := by
  intro c x hnm hok
  unfold importItem
  split
  · rename_i hk
    exact Post.map (importItem_flow hI hnm hok.2.1 (by simp [isImportItem, hk]) (importRenamedProducer_ok hI))
  · rename_i hk
    exact Post.map (importItem_flow hI hnm hok.2.1 (by simp [isImportItem, hk]) importPathProducer_ok)
  · rename_i h1 h2
    refine Post.pure ?_
    rcases hok.2.2 with h | h | h
    · simp only [isImportItem, Bool.or_eq_true, beq_iff_eq] at h
      exact absurd h (not_or.mpr ⟨h1, h2⟩)
    · exact triviaS_comment x hok.1 h
    · exact triviaS_ignorable x hok.1 h

theorem importItemOK_nohash {x : ANode} (h : importItemOK Q x) : x.kind ≠ .hash := by
  intro hh
  rcases h.2.2 with h1 | h1 | h1
  · unfold isImportItem at h1; rw [hh] at h1; cases h1
  · rw [hh] at h1; cases h1
  · unfold isIgnorable at h1; rw [hh] at h1; cases h1

/-- The items as they are printed: stably sorted by key when reordering is on and the list is sortable,
in source order otherwise (separators and parentheses prescribe nothing). -/
def importPrinted (cfg : PConfig) (nodes : List ANode) : List ANode :=
  if cfg.reorder && importSortable nodes then stableSort importSortKey (nodes.filter isImportItem) else nodes

theorem specAll_nonitem {nodes : List ANode} (hall : ∀ x ∈ nodes, importItemOK Q x) (hs : importSortable nodes = true)
    {x : ANode} (hx : x ∈ nodes) (hni : isImportItem x = false) : specAll x = {} := by
  simp only [importSortable, Bool.and_eq_true, List.all_eq_true, Bool.not_eq_true'] at hs
  rcases (hall x hx).2.2 with h | h | h
  · rw [h] at hni; cases hni
  · rw [hs.1 x hx] at h; cases h
  · exact specAll_ignorable x (hall x hx).1 h

theorem specAllL_importOrder (cfg : PConfig) (nodes : List ANode) (hall : ∀ x ∈ nodes, importItemOK Q x) :
    specAllL (importOrder cfg nodes) = specAllL (importPrinted cfg nodes) := by
  unfold importOrder importPrinted
  split
  · rename_i hc
    simp only [Bool.and_eq_true] at hc
    rw [← specAllL_filter isImportItem _ (fun x hx => specAll_nonitem hall hc.2 ((stableSort_perm _ _).mem_iff.mp hx)),
      filter_stableSort]
  · rfl

theorem specAllL_importPrinted (cfg : PConfig) (nodes : List ANode) (hall : ∀ x ∈ nodes, importItemOK Q x)
    (hord : sortedB importSortKey (nodes.filter isImportItem) = true ∨ importSortable nodes = false) :
    specAllL (importPrinted cfg nodes) = specAllL nodes := by
  unfold importPrinted
  split
  · rename_i hc
    simp only [Bool.and_eq_true] at hc
    rcases hord with hs | hs
    · rw [stableSort_id_of_sorted _ _ (sortedBy_of_sortedB hs)]
      exact specAllL_filter isImportItem nodes (fun x hx => specAll_nonitem hall hc.2 hx)
    · rw [hs] at hc; cases hc.2
  · rfl

theorem convImportItems_carries (hI : ImpQ Q) (hnm : NM ctx) {nodes : List ANode} (hall : ∀ x ∈ nodes, importItemOK Q x) :
    Post (convImportItems e ctx nodes) (fun d => Carries d (specAllL (importPrinted e.cfg nodes))) := by
  unfold convImportItems
  have hp := soft_delims e
  have hall' : ∀ x ∈ importOrder e.cfg nodes, importItemOK Q x := fun x hx => hall x ((importOrder_perm _ _).mem_iff.mp hx)
  have := list_construct_carries e ctx (importItem e) (importItemOK Q) (importItem_ok hI) hnm ({} : LS) ⟨rfl, rfl, rfl⟩
    id (fun _ => rfl) { e.parenStyle with omitDelimFlat := true, omitDelimEmpty := true } hp.2.2.1 hp.1 hp.2.1
    (importOrder e.cfg nodes) hall' (fun x hx => importItemOK_nohash (hall' x hx))
  rwa [specAllL_importOrder e.cfg nodes hall] at this

theorem importPrefixProducer_ok (hr : RecOK r Q) : ProducerS (importPrefixProducer e r) specAll (ChildOK Q) := by
  intro st c child hnm hok
  unfold importPrefixProducer
  split
  · rename_i hk
    exact Post.map (synLeaf_carries e child ":" hok.1 (by rw [hk]; decide))
  · rename_i hk
    exact Post.map (synLeaf_carries e child "*" hok.1 (by rw [hk]; decide))
  · exact Post.ite (fun hk => Post.pure (ident_carries e hok.1 (beq_iff_eq.mp hk))) fun _ =>
      Post.ite (fun hx => Post.map (hr.expr c child hnm hx hok.2)) fun _ =>
      space_or_reject hok.1

/-- The part of an import statement before its items. -/
def importPrefix (nodes : List ANode) : List ANode :=
  nodes.take ((nodes.findIdx? fun c => c.kind == .leftParen || c.kind == .importItems).getD nodes.length)

/-- `convert_import`, every configuration: the statement is printed as its prefix followed by its
items in the order of `importOrder` — sorted when reordering is on and the list is sortable, untouched
otherwise. -/
theorem convImport_carries (e : Env) (r : Rec) (hr : RecOK r Q) (hI : ImpQ Q) (ctx : Ctx) (hnm : NM ctx)
    (cs : List ANode) (a : Attrs)
    (hlex : ANode.tokensAreLeavesL cs = true) (hq : ∀ c ∈ cs, Q c)
    (hitems : ∀ x ∈ importFlattened cs, importItemOK Q x) :
    Post (convImport e r ctx (.inner .moduleImport cs a))
      (fun d => Carries d ((specAllL (importPrefix cs)).app (specAllL (importPrinted e.cfg (importFlattened cs))))) := by
  unfold convImport importPrefix importFlattened
  extract_lets nodes div itemsPart prefixPart itemNodes sep
  show Post _ (fun d => Carries d ((specAllL (nodes.take div)).app (specAllL (importPrinted e.cfg itemNodes))))
  have hpm : ∀ c ∈ prefixPart, ChildOK Q c := fun c hc => by
    have : c ∈ nodes := by simp only [prefixPart] at hc; split at hc <;> exact List.mem_of_mem_take hc
    exact ⟨tokensAreLeavesL_mem hlex this, hq c this⟩
  -- the prefix is what stands before the items, but for a space
  have hpreS : specAllL (nodes.take div) = specAllL prefixPart := by
    simp only [prefixPart]
    split
    · rename_i hc
      simp only [Bool.and_eq_true, decide_eq_true_eq] at hc
      have := specAllL_take_space hlex hc.2
      rwa [Nat.sub_add_cancel hc.1] at this
    · rfl
  have hflow := flowM_specAll (e := e) (importPrefixProducer_ok (e := e) hr) hnm prefixPart
    ((tokensAreLeavesL_iff _).mpr fun c hc => (hpm c hc).1) hpm ()
  rw [← hpreS] at hflow
  refine Post.bind hflow (fun pd hpd => ?_)
  have hnil : itemNodes = [] → Carries pd ((specAllL (nodes.take div)).app (specAllL (importPrinted e.cfg itemNodes))) := fun he => by
    rw [he]; simpa [importPrinted, stableSort] using hpd
  split
  · rename_i he
    exact Post.pure (hnil (by simp only [itemNodes, show itemsPart = [] by simpa using he, List.flatMap_nil]))
  · split
    · rename_i he
      exact Post.pure (hnil (by simpa using he))
    · refine Post.bind (convImportItems_carries hI hnm hitems) (fun idoc hid => Post.pure ?_)
      have hsep : Carries sep {} := Carries.ite Carries.hardline Carries.space
      simpa using (hpd.app hsep).app hid

theorem convImport_carries_of_sorted (e : Env) (r : Rec) (hr : RecOK r Q) (hI : ImpQ Q) (ctx : Ctx) (hnm : NM ctx)
    (cs : List ANode) (a : Attrs) (hda : a.disabled = false)
    (hlex : ANode.tokensAreLeavesL cs = true) (hq : ∀ c ∈ cs, Q c)
    (hflat : ∀ c ∈ cs, c.kind = .importItems → specAll c = specAllL c.children)
    (hitems : ∀ x ∈ importFlattened cs, importItemOK Q x)
    (hord : sortedB importSortKey ((importFlattened cs).filter isImportItem) = true ∨ importSortable (importFlattened cs) = false) :
    Post (convImport e r ctx (.inner .moduleImport cs a)) (fun d => Carries d (specAll (.inner .moduleImport cs a))) := by
  refine (convImport_carries e r hr hI ctx hnm cs a hlex hq hitems).mono (fun d hd => hd.congr ?_)
  rw [specAll_enabled (k := .moduleImport) cs hda rfl, specAllL_importPrinted e.cfg _ hitems hord]
  unfold importPrefix importFlattened
  rw [specAllL_flatMap_children _ _ (fun c hc hk => hflat c (List.mem_of_mem_drop hc) (beq_iff_eq.mp hk)), ← specAllL_append,
    List.take_append_drop]

end Typstyle
