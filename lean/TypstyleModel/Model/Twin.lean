import TypstyleModel.Model.Cert
import TypstyleModel.Model.Text
import TypstyleModel.Proofs.Lay
/-! Unit-indexed documents: the printer does not build one `pretty` document but the whole
family `u ↦ document at indent unit u`, together with the kernel-checked proof that the member at
unit `u` is `scale u` of the member at unit 1.  Every builder operation the printer uses is lifted
once, with its proof; the printer itself is written in ordinary notation over this type, so the
indentation-scaling property (`C12_print_scale`) holds *by construction* for every tree.
Core Lean only (the driver links). -/
namespace Pretty

@[simp] theorem scale_eq_nil (u : Nat) (d : Doc) : (scale u d = .nil) ↔ d = .nil := by
  cases d <;> simp [scale]

-- `rfl` in each of the 64 cases: both sides compute to the same constructor term.
@[simp] theorem scale_app (u : Nat) (a b : Doc) : scale u (a ++ b) = scale u a ++ scale u b := by
  cases a <;> cases b <;> rfl

@[simp] theorem scale_grp (u : Nat) (d : Doc) : scale u d.grp = (scale u d).grp := by
  cases d <;> simp only [Doc.grp, scale] <;> split <;> rfl

@[simp] theorem scale_falt (u : Nat) (a b : Doc) : scale u (Doc.falt a b) = Doc.falt (scale u a) (scale u b) := rfl

theorem Doc.nst_zero (d : Doc) : d.nst 0 = d := by cases d <;> rfl

theorem scale_nst (u : Nat) (hu : 0 < u) (d : Doc) (k : Nat) : scale u (d.nst k) = (scale u d).nst (k * u) := by
  cases k with
  | zero => rw [Nat.zero_mul, Doc.nst_zero, Doc.nst_zero]
  | succ k =>
    have h : ((k + 1) * u == 0) = false := by simp [Nat.mul_eq_zero]; omega
    cases d <;> simp [Doc.nst, scale, h]

@[simp] theorem scale_enclose (u : Nat) (d a b : Doc) :
    scale u (d.enclose a b) = (scale u d).enclose (scale u a) (scale u b) := by
  simp [Doc.enclose]

/-- No indentation step outside `align`: such a document is the same at every unit. -/
def Doc.closed : Doc → Bool
  | .nest _ _ => false
  | .append a b => a.closed && b.closed
  | .group d => d.closed
  | .flatAlt b f => b.closed && f.closed
  | _ => true

theorem scale_closed (u : Nat) : (d : Doc) → d.closed = true → scale u d = d := by
  intro d
  induction d with
  | nest => nofun
  | append a b iha ihb | flatAlt a b iha ihb =>
    intro h
    rw [Doc.closed, Bool.and_eq_true] at h
    rw [scale, iha h.1, ihb h.2]
  | group d ih => intro h; rw [scale, ih h]
  | _ => intro _; rfl

theorem mkText_closed (wd : String → Nat) (t : Tag) (s : String) : (mkText wd t s).closed = true := by
  unfold mkText; split <;> rfl

open Typstyle (isWs)

/-! ### the token text of a layout -/

/-- Characters the printer may re-synthesise (delimiters and separators) — together with blanks
they are the only characters the token-preservation theorem does not account for. -/
def isDelimChar (c : Char) : Bool :=
  c == '(' || c == ')' || c == '{' || c == '}' || c == ',' || c == ';' || c == ':'

def keepChar (c : Char) : Bool := !isWs c && !isDelimChar c

/-- The kept characters of a string. -/
def keepOf (s : String) : String := String.ofList (s.toList.filter keepChar)

/-- The four streams a document carries by construction. -/
inductive Stream where
  | tok    -- code tokens: kept characters of everything that is not a comment
  | cmt    -- comments: all non-blank characters of comment atoms
  | prose  -- markup text: every character of prose atoms (C08)
  | lit    -- literals: every character of literal atoms (strings, raw text, numbers, labels, …; C10)
  | verb   -- verbatim regions: every character of the atoms copied for `@typstyle off` nodes (C07)
deriving DecidableEq, Repr

/-- The characters a text with tag `t` contributes to stream `c`. -/
def charsOf (c : Stream) (t : Tag) (s : String) : List Char :=
  match c with
  | .tok => if t = .comment then [] else s.toList.filter keepChar
  | .cmt => if t = .comment then s.toList.filter (fun x => !isWs x) else []
  | .prose => if t = .prose ∨ t = .plit then s.toList else []
  | .lit => if t = .lit ∨ t = .plit then s.toList else []
  | .verb => if t = .verbatim then s.toList else []

def atomChars (c : Stream) : Atom → List Char
  | .txt s t => charsOf c t s
  | .nl _ => []

/-- Text of stream `c` in a layout, in order. -/
def streamText (c : Stream) (xs : List Atom) : List Char := xs.flatMap (atomChars c)

/-- Token text of a layout: the kept characters of every atom that is not a comment, in order. -/
abbrev tokText (xs : List Atom) : List Char := streamText .tok xs
/-- Comment text of a layout: the non-blank characters of the comment atoms, in order. -/
abbrev cmtText (xs : List Atom) : List Char := streamText .cmt xs
/-- Prose text of a layout: all characters of the markup-text atoms, in order. -/
abbrev proseText (xs : List Atom) : List Char := streamText .prose xs
/-- Literal text of a layout: all characters of the literal atoms, in order. -/
abbrev litText (xs : List Atom) : List Char := streamText .lit xs
/-- Verbatim text of a layout: all characters of the atoms copied for `@typstyle off` nodes, in order. -/
abbrev verbText (xs : List Atom) : List Char := streamText .verb xs

theorem streamText_append (c : Stream) (xs ys : List Atom) : streamText c (xs ++ ys) = streamText c xs ++ streamText c ys := by
  simp [streamText]

/-- Every layout of `d`, in either mode, has text `s` in stream `c`. -/
def EmitsS (c : Stream) (d : Doc) (s : List Char) : Prop := ∀ m xs, Lay m d xs → streamText c xs = s
abbrev EmitsT (d : Doc) (s : List Char) : Prop := EmitsS .tok d s

theorem EmitsS.app {c a b sa sb} (ha : EmitsS c a sa) (hb : EmitsS c b sb) : EmitsS c (a ++ b) (sa ++ sb) :=
  LayAll.app (streamText_append c) ha hb

theorem EmitsS.grp {c d s} (h : EmitsS c d s) : EmitsS c d.grp s := LayAll.grp h

theorem EmitsS.nst {c d s n} (h : EmitsS c d s) : EmitsS c (d.nst n) s := LayAll.nst h

theorem EmitsS.falt {c b f s} (hb : EmitsS c b s) (hf : EmitsS c f s) : EmitsS c (Doc.falt b f) s := LayAll.falt hb hf

theorem EmitsS.mkText (c : Stream) (wd : String → Nat) (t : Tag) (s : String) :
    EmitsS c (mkText wd t s) (charsOf c t s) := by
  intro m xs h
  rcases lay_mkText_cases h with ⟨rfl, rfl⟩ | rfl
  · cases c <;> simp [streamText, charsOf]
  · simp [streamText, atomChars]

/-- Every text of the document is tagged as comment text, and there are no alternatives
(`flat_alt`): a converted comment. -/
def Doc.commentOnly : Doc → Bool
  | .text _ _ t => t == .comment
  | .append a b => a.commentOnly && b.commentOnly
  | .group d => d.commentOnly
  | .flatAlt _ _ => false
  | .nest _ d => d.commentOnly
  | .align d => d.commentOnly
  | _ => true

/-- The non-blank characters of all texts of the document, in order. -/
def Doc.allChars : Doc → List Char
  | .text s _ _ => s.toList.filter (fun x => !isWs x)
  | .append a b => a.allChars ++ b.allChars
  | .group d => d.allChars
  | .flatAlt b _ => b.allChars
  | .nest _ d => d.allChars
  | .align d => d.allChars
  | _ => []

theorem commentOnly_emits {m : Mode} {d : Doc} {xs : List Atom} (hl : Lay m d xs) :
    d.commentOnly = true → ∀ c, streamText c xs = (if c = .cmt then d.allChars else []) := by
  induction hl with
  | nil | hardline => intro _ c; cases c <;> rfl
  | text =>
    intro h c; simp only [Doc.commentOnly, beq_iff_eq] at h
    cases c <;> simp [streamText, atomChars, charsOf, h, Doc.allChars]
  | append _ _ iha ihb =>
    intro h c; simp only [Doc.commentOnly, Bool.and_eq_true] at h
    rw [streamText_append, iha h.1 c, ihb h.2 c]
    cases c <;> simp [Doc.allChars]
  | groupSame _ ih | groupFlat _ ih | nest _ ih | align _ ih => exact ih
  | flatAltB | flatAltF => nofun

end Pretty

namespace Twin
open Pretty (scale EmitsS keepOf charsOf Stream)

/-- The four stream texts of a document. -/
structure Streams where
  tok : String := ""
  cmt : String := ""
  prose : String := ""
  lit : String := ""
  verb : String := ""
deriving DecidableEq, Repr

def Streams.get (s : Streams) : Stream → String
  | .tok => s.tok
  | .cmt => s.cmt
  | .prose => s.prose
  | .lit => s.lit
  | .verb => s.verb

def Streams.app (a b : Streams) : Streams :=
  ⟨a.tok ++ b.tok, a.cmt ++ b.cmt, a.prose ++ b.prose, a.lit ++ b.lit, a.verb ++ b.verb⟩

theorem Streams.get_app (a b : Streams) (c : Stream) : (a.app b).get c = a.get c ++ b.get c := by
  cases c <;> rfl

/-- The family of documents, one per indent unit, related by `scale`; together with the texts of
the four streams (`ss`) that every layout of every member carries (when `good`: the dynamic side
conditions — both alternatives of a `flat_alt` carry the same streams, a comment document holds only
comment text — held). -/
structure Doc where
  fam : Nat → Pretty.Doc
  rel : ∀ u, 0 < u → fam u = scale u (fam 1)
  ss : Streams
  good : Bool
  emits : good = true → ∀ u c, EmitsS c (fam u) (ss.get c).toList

def Doc.toks (d : Doc) : String := d.ss.tok
def Doc.cmts (d : Doc) : String := d.ss.cmt
def Doc.prose (d : Doc) : String := d.ss.prose
def Doc.lits (d : Doc) : String := d.ss.lit
def Doc.verbs (d : Doc) : String := d.ss.verb

/-- A comment (plain closed document): its non-blank characters go to the comment stream, nothing to the others. -/
def Doc.ofClosed (d : Pretty.Doc) (h : d.closed = true) : Doc :=
  { fam := fun _ => d
    rel := fun u _ => (Pretty.scale_closed u d h).symm
    ss := { cmt := String.ofList d.allChars }
    good := d.commentOnly
    emits := fun hg _ c m xs hl => by
      rw [Pretty.commentOnly_emits hl hg c]
      cases c <;> simp [Streams.get] }

def mkText (wd : String → Nat) (tag : Pretty.Tag) (s : String) : Doc :=
  { fam := fun _ => Pretty.mkText wd tag s
    rel := fun u _ => (Pretty.scale_closed u _ (Pretty.mkText_closed wd tag s)).symm
    ss := ⟨String.ofList (charsOf .tok tag s), String.ofList (charsOf .cmt tag s),
           String.ofList (charsOf .prose tag s), String.ofList (charsOf .lit tag s),
           String.ofList (charsOf .verb tag s)⟩
    good := true
    emits := fun _ _ c => by cases c <;> simpa [Streams.get] using Pretty.EmitsS.mkText _ wd tag s }

def Doc.nil : Doc := mkText (fun _ => 0) .soft ""
instance : Inhabited Doc := ⟨Doc.nil⟩

def Doc.app (a b : Doc) : Doc :=
  { fam := fun u => a.fam u ++ b.fam u
    rel := fun u hu => by rw [a.rel u hu, b.rel u hu, Pretty.scale_app]
    ss := a.ss.app b.ss
    good := a.good && b.good
    emits := fun hg u c => by
      simp only [Bool.and_eq_true] at hg
      simpa [Streams.get_app] using Pretty.EmitsS.app (a.emits hg.1 u c) (b.emits hg.2 u c) }
instance : Append Doc := ⟨Doc.app⟩

def Doc.grp (d : Doc) : Doc :=
  { d with fam := fun u => (d.fam u).grp
           rel := fun u hu => by rw [d.rel u hu, Pretty.scale_grp]
           emits := fun hg u c => Pretty.EmitsS.grp (d.emits hg u c) }

/-- `nest(config.tab_spaces)`: the only way the printer indents. -/
def Doc.nstTab (d : Doc) : Doc :=
  { d with fam := fun u => (d.fam u).nst u
           rel := fun u hu => by
             show (d.fam u).nst u = scale u ((d.fam 1).nst 1)
             rw [Pretty.scale_nst u hu, d.rel u hu, Nat.one_mul]
           emits := fun hg u c => Pretty.EmitsS.nst (d.emits hg u c) }

/-- `flat_alt`: both alternatives must carry the same streams (checked, recorded in `good`). -/
def Doc.falt (b f : Doc) : Doc :=
  { fam := fun u => Pretty.Doc.falt (b.fam u) (f.fam u)
    rel := fun u hu => by rw [b.rel u hu, f.rel u hu, Pretty.scale_falt]
    ss := b.ss
    good := b.good && f.good && b.ss == f.ss
    emits := fun hg u c => by
      simp only [Bool.and_eq_true, beq_iff_eq] at hg
      obtain ⟨⟨hb, hf⟩, ht⟩ := hg
      have hf1 := f.emits hf u c
      rw [← ht] at hf1
      exact Pretty.EmitsS.falt (b.emits hb u c) hf1 }

def space : Doc := mkText (fun _ => 0) .soft " "
def hardline : Doc :=
  { fam := fun _ => Pretty.hardline
    rel := fun _ _ => rfl
    ss := {}
    good := true
    emits := fun _ _ c m xs hl => by cases hl; cases c <;> rfl }
def line : Doc := Doc.falt hardline space
def line_ : Doc := Doc.falt hardline .nil

def Doc.enclose (d : Doc) (a b : Doc) : Doc := (a ++ d) ++ b

def repeatN (d : Doc) : Nat → Doc
  | 0 => .nil
  | n+1 => repeatN d n ++ d

def concatDocs (ds : List Doc) : Doc := ds.foldl (· ++ ·) .nil

def intersperse (ds : List Doc) (sep : Doc) : Doc :=
  match ds with
  | [] => .nil
  | d :: rest => rest.foldl (fun acc x => (acc ++ sep) ++ x) (Doc.nil ++ d)

/-- **Scaling by construction**: the member at unit `u` is `scale u` of the member at unit 1. -/
theorem Doc.scale_eq (d : Doc) (u : Nat) (hu : 0 < u) : d.fam u = scale u (d.fam 1) := d.rel u hu

@[simp] theorem fam_app (a b : Doc) (u : Nat) : (a ++ b).fam u = a.fam u ++ b.fam u := rfl
@[simp] theorem fam_grp (d : Doc) (u : Nat) : d.grp.fam u = (d.fam u).grp := rfl
@[simp] theorem fam_nstTab (d : Doc) (u : Nat) : d.nstTab.fam u = (d.fam u).nst u := rfl
@[simp] theorem fam_falt (b f : Doc) (u : Nat) : (Doc.falt b f).fam u = Pretty.Doc.falt (b.fam u) (f.fam u) := rfl
@[simp] theorem fam_nil (u : Nat) : Doc.nil.fam u = .nil := rfl
@[simp] theorem fam_space (u : Nat) : space.fam u = Pretty.space := rfl
@[simp] theorem fam_hardline (u : Nat) : hardline.fam u = Pretty.hardline := rfl
@[simp] theorem fam_ofClosed (d : Pretty.Doc) (h : d.closed = true) (u : Nat) : (Doc.ofClosed d h).fam u = d := rfl
@[simp] theorem fam_mkText (wd : String → Nat) (t : Pretty.Tag) (s : String) (u : Nat) :
    (mkText wd t s).fam u = Pretty.mkText wd t s := rfl

end Twin
