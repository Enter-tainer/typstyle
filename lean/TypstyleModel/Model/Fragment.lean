import TypstyleModel.Model.Printer.Knot
/-! The covered fragment of route M: the trees for which stream preservation is a theorem with no per-case
certificate (`knot_frag`).  Everything here is decidable and is evaluated by the driver on every case (fields `rm`,
`rmwhy`): the lexical shape of a tree (`ANode.tokensAreLeaves`), the shape each construct demands of its children,
and the two fragments, defined by mutual recursion: `inFrag` for contexts that are not in math mode, `inFragM` for
math mode.
`inFrag` covers: identifier, literal and prose leaves; unary and binary expressions (operator chains,
`not in`); field access and method chains; calls and argument lists, `table`/`grid` included; `set`,
`show`, `let`, destructuring, closures and parameter lists; `context`, `if`, `while`, `for`, `return`,
`break`, `continue`, `include`, `import` (items in order, or not sorted); named, keyed, spread; arrays,
dictionaries, parentheses (nested too), code blocks (empty or marked bodies too); markup, content blocks,
strong/emphasis, headings, list/enum/term items, raw, references, equations; these also when marked
`@typstyle off`, except where a shape predicate says `!….disabled`; comments, keywords, `#` and white space anywhere.  `inFragM` covers: math leaves,
attachments, roots, fractions, primes, delimited groups, nested and empty bodies, field access, calls with
one- or two-dimensional arguments (rows may hold `#` code).  What is not covered is listed in DESIGN.md
§0.2; for those trees the per-case certificates remain the deciding check. -/
namespace Typstyle

/-! ### lexical shape -/

/-- Kinds the parser builds inner nodes for (everything else is a token: a leaf). -/
def Kind.isInnerKind : Kind → Bool
  | .markup | .strong | .emph | .raw | .ref | .heading | .listItem | .enumItem | .termItem | .equation | .math
  | .mathDelimited | .mathAttach | .mathPrimes | .mathFrac | .mathRoot | .code | .codeBlock | .contentBlock
  | .parenthesized | .array | .dict | .named | .keyed | .unary | .binary | .fieldAccess | .funcCall | .args | .spread
  | .closure | .params | .letBinding | .setRule | .showRule | .contextual | .conditional | .whileLoop | .forLoop
  | .moduleImport | .importItems | .importItemPath | .renamedImportItem | .moduleInclude | .loopBreak | .loopContinue
  | .funcReturn | .destructuring | .destructAssignment | .error_ => true
  | _ => false

/-- Delimiters and separators whose text the lexer fixes (the printer drops or re-synthesises them). -/
def Kind.fixedText : Kind → Option String
  | .leftParen => some "(" | .rightParen => some ")" | .leftBrace => some "{" | .rightBrace => some "}"
  | .comma => some "," | .semicolon => some ";" | .colon => some ":"
  | _ => none

/-- Further tokens whose text the lexer fixes and which the printer prints as constants. -/
def Kind.fixedTok : Kind → Option String
  | .leftBracket => some "[" | .rightBracket => some "]" | .star => some "*" | .underscore => some "_"
  | .dollar => some "$" | .dot => some "." | .hash => some "#"
  | _ => none

mutual
/-- Lexical shape: every node of a token kind is a leaf, and a delimiter or separator leaf carries the
text the lexer fixes for its kind (decidable; true of every tree the parser returns). -/
def ANode.tokensAreLeaves : ANode → Bool
  | .leaf k t _ => (match k.fixedText with | some s => t == s | none => true) &&
      (match k.fixedTok with | some s => t == s | none => true)
  | .inner k cs _ => k.isInnerKind && ANode.tokensAreLeavesL cs
def ANode.tokensAreLeavesL : List ANode → Bool
  | [] => true
  | c :: cs => ANode.tokensAreLeaves c && ANode.tokensAreLeavesL cs
end

/-- A token that is printed from its own text as a code token and prescribes exactly that:
operators, punctuation, markers. -/
def Kind.isPlainToken (k : Kind) : Bool :=
  !k.isInnerKind && !k.isExpr && !isCommentKind k && !(k == .space || k == .parbreak) &&
  !(k == .refMarker) && !(k == .bool) && !(k == .underscore)

/-- A child the list stylist may ignore: white space, or a delimiter/separator whose text is fixed. -/
def isIgnorable (x : ANode) : Bool := x.kind == .space || x.kind.fixedText.isSome

/-- Shape of a content block the printer handles: `[`, a markup body, `]`. -/
def isBlockShape (b : ANode) : Bool :=
  match b with
  | .inner .contentBlock cs a => cs.map (·.kind) == [.leftBracket, .markup, .rightBracket] && !a.disabled
  | _ => false

/-- A reference marker is `@` followed by a target that does not start with `@`. -/
def refMarkerOK (t : String) : Bool :=
  match t.toList with
  | '@' :: rest => rest.head? != some '@'
  | _ => false

/-- Children of a raw element the printer knows: fence, language tag, text lines, trimmed white space
(white space only) — all leaves. -/
def rawChildOK (c : ANode) : Bool :=
  match c with
  | .leaf k t _ => k == .rawDelim || k == .rawLang || k == .text || (k == .rawTrimmed && t.toList.all isWs)
  | .inner _ _ _ => false

/-- The children after the left operand: operators, comments, white space, and — once an operator
has been seen — operands.  `pend`: a `not` was seen and its `in` is still to come (only white space and
comments may stand between the two). -/
def binRestOK : Bool → Bool → List ANode → Bool
  | _, p, [] => !p
  | seen, false, c :: cs =>
    if c.kind == .not_ then binRestOK seen true cs
    else ((binOpOfKind c.kind).isSome || isCommentKind c.kind || c.kind == .space || (isExpr c && seen)) &&
      binRestOK (seen || (binOpOfKind c.kind).isSome) false cs
  | seen, true, c :: cs =>
    if c.kind == .in_ then binRestOK true false cs
    else (isCommentKind c.kind || c.kind == .space) && binRestOK seen true cs

def binChildrenOK (cs : List ANode) : Bool :=
  match cs with
  | lhs :: rest => isExpr lhs && !(lhs.kind == .binary && lhs.attrs.disabled) && binRestOK false false rest &&
      rest.all (fun c => c.kind != .not_ || c.text == "not")
  | [] => false

/-- Strict shape of the children of a field access after the target: one dot, then one field name;
white space and comments anywhere.  Phase 0 = before the dot, 1 = after it, 2 = after the name. -/
def faRest : Nat → List ANode → Bool
  | p, [] => p == 2
  | p, c :: cs =>
    if c.kind == .space || isCommentKind c.kind then faRest p cs
    else if c.kind == .dot then p == 0 && faRest 1 cs
    else c.kind == .ident && p == 1 && faRest 2 cs

def chainHeadOK (t : ANode) : Bool :=
  isExpr t && !((t.kind == .fieldAccess || t.kind == .funcCall) && t.attrs.disabled)

def dotChildrenOK (cs : List ANode) : Bool :=
  match cs with
  | t :: rest => chainHeadOK t && faRest 0 rest
  | [] => false

/-- Where `#` may stand in a row: not after another `#`, followed by an expression, not last. -/
def hashSeqB : Bool → List ANode → Bool
  | p, [] => !p
  | p, x :: xs => (if x.kind == .hash then !p else (!p || isExpr x)) && hashSeqB (x.kind == .hash) xs

def isImportItem (x : ANode) : Bool := x.kind == .renamedImportItem || x.kind == .importItemPath

section
variable (key : ANode → String)

def sortedB : List ANode → Bool
  | [] => true
  | x :: xs => xs.all (fun y => decide (key x ≤ key y)) && sortedB xs

end

/-! ### the fragment -/

/-- Expression leaves that are printed from their own text with the tag `leafTag` gives them. -/
def Kind.isFragLeaf (k : Kind) : Bool := (leafTag k).isSome && k.isExpr

def fragTag (k : Kind) : Pretty.Tag := (leafTag k).getD .tok

/-- Expression kinds laid out by the flow stylist. -/
def Kind.isFragFlow : Kind → Bool
  | .unary | .letBinding | .destructAssignment | .showRule | .contextual | .conditional | .whileLoop | .funcReturn
  | .moduleInclude => true
  | _ => false

/-- Elements of dictionaries and arrays (not expressions themselves). -/
def Kind.isFragElem : Kind → Bool
  | .named | .keyed | .spread => true
  | _ => false

/-- Expression kinds laid out by the list stylist. -/
def Kind.isFragList : Kind → Bool
  | .array | .dict | .parenthesized | .codeBlock => true
  | _ => false

/-- Markup constructs: a `Markup` body between two fixed delimiters (content block, strong, emphasis), and
the flow constructs of markup (heading, list/enum/term item). -/
def Kind.isFragWrap : Kind → Bool
  | .contentBlock | .strong | .emph => true
  | _ => false
def Kind.isFragItem : Kind → Bool
  | .heading | .listItem | .enumItem | .termItem => true
  | _ => false

/-- A child the list stylist passes over: a comment, white space, or a delimiter/separator. -/
def isPassable (x : ANode) : Bool := isCommentKind x.kind || isIgnorable x

/-- The children of a list-like node of kind `k` are what that construct handles (no `#`; nothing the
list stylist would drop silently). -/
def listChildrenOK (k : Kind) (cs : List ANode) : Bool :=
  match k with
  | .array => ((cs.head?.map (·.kind == .leftParen)).getD false) &&
      cs.all fun x => x.kind == .spread || isExpr x || isPassable x
  | .dict => cs.all fun x => x.kind == .named || x.kind == .keyed || x.kind == .spread || isPassable x
  | .parenthesized =>
      (cs.all fun x => isPattern x || isPassable x) &&
      -- directly nested parentheses `((x))` merge into one layer: the inner layer is printed alone
      (match cs.find? isPattern with
        | some p =>
          if p.kind == .parenthesized && !(cs.any fun c => isCommentKind c.kind) then
            !p.attrs.disabled && (cs.filter fun x => !isIgnorable x).length == 1
          else true
        | none => true)
  | .codeBlock => cs.all fun c =>
      if c.kind == .code then
        (match c with
          | .inner _ ccs ca => !ca.disabled && ccs.all fun x => isExpr x || isPassable x
          | .leaf _ t ca => !ca.disabled && t == "")
      else isPassable c
  | .contentBlock => cs.map (·.kind) == [.leftBracket, .markup, .rightBracket]
  | .strong => cs.map (·.kind) == [.star, .markup, .star]
  | .emph => cs.map (·.kind) == [.underscore, .markup, .underscore]
  | .markup => cs.all fun x => x.kind == .space || x.kind == .parbreak || x.kind == .text || isExpr x || isCommentKind x.kind || x.kind.isPlainToken
  | .args =>
      -- code mode: `( items )` then trailing content blocks, or content blocks only
      if (cs.head?.map (·.kind == .leftParen)).getD false then
        (cs.takeWhile (·.kind != .rightParen)).all (fun x => isArg x || isPassable x) &&
        (match cs.dropWhile (·.kind != .rightParen) with
          | _ :: blocks => blocks.all isBlockShape
          | [] => false)
      else cs.all isBlockShape
  | .params | .destructuring => cs.all fun x => isParam x || isPassable x
  | .raw => cs.all rawChildOK
  | .ref =>
      (match cs with
        | [.leaf .refMarker t _] => refMarkerOK t
        | [.leaf .refMarker t _, b] => refMarkerOK t && isBlockShape b
        | _ => false)
  | .funcCall =>
      -- callee and arguments; `table`/`grid` are laid out by other code
      (match cs with
        | [callee, args] => chainHeadOK callee && args.kind == .args
        | _ => false)
  | _ => false

/-- Shape of an equation's children after the opening `$`: body, white space, comments, closing `$`. -/
def eqRestB : List ANode → Bool
  | [] => false
  | c :: cs => if cs.isEmpty then c.kind == .dollar
      else (c.kind == .math || c.kind == .space || isCommentKind c.kind) && eqRestB cs

def eqShapeB (cs : List ANode) : Bool :=
  match cs with
  | d0 :: rest => d0.kind == .dollar && eqRestB rest
  | [] => false

/-- Shape of a `MathDelimited`: opening and closing delimiter, between them bodies, white space, comments. -/
def delimShapeB (cs : List ANode) : Bool :=
  match cs with
  | c0 :: rest =>
    (match rest.getLast? with
      | some c1 => isExpr c0 && isExpr c1 &&
          rest.dropLast.all (fun c => c.kind == .math || c.kind == .space || isCommentKind c.kind)
      | none => false)
  | [] => false

def isSpK (c : ANode) : Bool := c.kind == .space
/-- The trailing white space of a list, and the list without it. -/
def trailSp (l : List ANode) : List ANode := (l.reverse.takeWhile isSpK).reverse
def dropTrail (l : List ANode) : List ANode := (l.reverse.dropWhile isSpK).reverse

/-- Shape of the arguments of a call in math: `(`, white space, content, white space, `)`. -/
def mathArgsShapeB (acs : List ANode) : Bool :=
  match acs with
  | lp :: rest =>
    lp.kind == .leftParen &&
    (match rest.getLast? with
      | some rp => rp.kind == .rightParen &&
          (rest.dropLast.takeWhile isSpK).all isSpK &&
          (trailSp (rest.dropLast.dropWhile isSpK)).all isSpK &&
          ((dropTrail (rest.dropLast.dropWhile isSpK)).head?.map (fun c => !(c.kind == .leftParen || c.kind == .space))).getD true &&
          ((dropTrail (rest.dropLast.dropWhile isSpK)).getLast?.map (fun c => !(c.kind == .rightParen || c.kind == .space))).getD true &&
          (!(dropTrail (rest.dropLast.dropWhile isSpK)).isEmpty || (trailSp (rest.dropLast.dropWhile isSpK)).isEmpty)
      | none => false)
  | [] => false

/-- Shape of a call in math: callee (not a field access) and parenthesised arguments. -/
def mathCallShapeB (cs : List ANode) : Bool :=
  match cs with
  | [callee, args] => isExpr callee && !(callee.kind == .fieldAccess) &&
      (match args with
        | .inner .args acs _ => mathArgsShapeB acs
        | _ => false)
  | _ => false

/-- Shape of a row of two-dimensional math arguments: an array without parentheses. -/
def rowShapeB (cs : List ANode) : Bool :=
  !((cs.head?.map (·.kind == .leftParen)).getD false) &&
  cs.all (fun x => isExpr x || isCommentKind x.kind || isIgnorable x || x.kind == .hash) &&
  hashSeqB false cs

/-- Shape of an import statement: the flattened item list holds items, comments and separators only, and
the items are already in the order the printer would give them (or are not sorted at all). -/
def importShapeB (cs : List ANode) : Bool :=
  (importFlattened cs).all (fun x => isImportItem x || isCommentKind x.kind || isIgnorable x) &&
  (sortedB importSortKey ((importFlattened cs).filter isImportItem) || !importSortable (importFlattened cs))

/-- The body of the code block is marked `@typstyle off`: the whole block is emitted verbatim. -/
def codeBodyDisabled (cs : List ANode) : Bool := ((cs.find? (·.kind == .code)).map (·.attrs.disabled)).getD false

/-- `break` / `continue`: one keyword leaf. -/
def loopShapeB (cs : List ANode) : Bool :=
  match cs with
  | [.leaf kk _ _] => kk == .break_ || kk == .continue_
  | _ => false

def Kind.isImportPart : Kind → Bool
  | .importItemPath | .renamedImportItem | .importItems => true
  | _ => false

def Kind.isMathFlow : Kind → Bool
  | .mathAttach | .mathRoot | .mathFrac => true
  | _ => false

mutual
/-- The covered fragment (decidable), for contexts that are not in math mode. -/
def inFrag : ANode → Bool
  | .leaf k t a => ANode.tokensAreLeaves (.leaf k t a) && (!k.isExpr || k.isFragLeaf || (k == .parbreak && !a.disabled) || k == .none_ || k == .auto_) && (!k.isInnerKind || ((k == .markup || k == .code || k == .importItems) && t == ""))
  | .inner k cs _ =>
    ((k.isFragFlow || k.isFragElem || (k.isFragList && listChildrenOK k cs) || k == .code ||
      ((k.isFragWrap || k == .markup || k == .args || k == .funcCall || k == .params || k == .destructuring || k == .raw || k == .ref) && listChildrenOK k cs) || k.isFragItem || k == .setRule || k == .closure || k == .forLoop || (k == .binary && binChildrenOK cs) || (k == .fieldAccess && dotChildrenOK cs) || k.isImportPart || (k == .moduleImport && importShapeB cs) || ((k == .loopBreak || k == .loopContinue) && loopShapeB cs) || (k == .codeBlock && codeBodyDisabled cs)) || (k == .equation && eqShapeB cs)) &&
      (if k == .equation then inFragEq cs else inFragL cs)
def inFragL : List ANode → Bool
  | [] => true
  | c :: cs => inFrag c && inFragL cs
/-- The children of an equation: the body is converted in math mode. -/
def inFragEq : List ANode → Bool
  | [] => true
  | c :: cs => (if c.kind == .math then inFragM c else inFrag c) && inFragEq cs
/-- The covered fragment for math mode. -/
def inFragM : ANode → Bool
  | .leaf k t a => ANode.tokensAreLeaves (.leaf k t a) && (!k.isExpr || k.isFragLeaf || (k == .parbreak && !a.disabled) || k == .none_ || k == .auto_ || k == .math || k == .array) && (!k.isInnerKind || ((k == .markup || k == .code || k == .importItems || k == .math || k == .array) && t == ""))
  | .inner k cs _ =>
    if k == .funcCall then mathCallShapeB cs && inFragMCallL cs else
    (k.isMathFlow || k == .math || (k == .mathPrimes && cs.all (fun c => c.kind == .prime)) ||
      (k == .mathDelimited && delimShapeB cs) || (k == .array && rowShapeB cs) ||
      (k == .fieldAccess && dotChildrenOK cs && !(cs.any fun c => isCommentKind c.kind))) && inFragMS false cs
/-- The children of a call in math mode: the callee, and the arguments (a math sequence). -/
def inFragMCallL : List ANode → Bool
  | [] => true
  | (.inner .args acs _) :: cs => inFragMA false acs && inFragMCallL cs
  | c :: cs => inFragM c && inFragMCallL cs
/-- The children of the argument list of a call in math mode: a math sequence in which named and spread
arguments may occur; their children are a math sequence again (without a bare `_`). -/
def inFragMA : Bool → List ANode → Bool
  | _, [] => true
  | hh, c :: cs =>
    (if c.kind == .named || c.kind == .spread then
      (match c with
        | .inner _ ccs _ => !hh && inFragMS false ccs && ccs.all (fun x => x.kind != .underscore)
        | .leaf _ _ _ => false)
     else if isExpr c then (if hh then inFrag c else inFragM c)
     else ANode.tokensAreLeaves c && (c.kind == .space || c.kind == .hash || isCommentKind c.kind || c.kind.isPlainToken || c.kind == .underscore)) &&
    inFragMA (c.kind == .hash) cs
/-- A sequence of children converted in math mode; the flag: the previous sibling is `#`, so the child is
converted in code mode. -/
def inFragMS : Bool → List ANode → Bool
  | _, [] => true
  | hh, c :: cs =>
    (if isExpr c then (if hh then inFrag c else inFragM c)
     else ANode.tokensAreLeaves c && (c.kind == .space || c.kind == .hash || isCommentKind c.kind || c.kind.isPlainToken || c.kind == .underscore)) &&
    inFragMS (c.kind == .hash) cs
end

end Typstyle
