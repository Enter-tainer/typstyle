import TypstyleModel.Model.Kind
import TypstyleModel.Model.Doc
import TypstyleModel.Model.Syntax
import TypstyleModel.Model.Text
import TypstyleModel.Model.Env
import TypstyleModel.Model.Comment
import TypstyleModel.Model.Stylist.List
import TypstyleModel.Model.Stylist.Flow
import TypstyleModel.Model.Stylist.Chain
import TypstyleModel.Model.Stylist.Plain
import TypstyleModel.Model.Printer.Base
import TypstyleModel.Model.Printer.Code
import TypstyleModel.Model.Printer.Markup
import TypstyleModel.Model.Printer.Math
import TypstyleModel.Model.Printer.Knot
import TypstyleModel.Model.Fragment
import TypstyleModel.Model.Range
import TypstyleModel.Model.Cli
import TypstyleModel.Props.C01
import TypstyleModel.Props.C02
import TypstyleModel.Props.C03
import TypstyleModel.Props.C04
import TypstyleModel.Props.C05
import TypstyleModel.Props.C06
import TypstyleModel.Props.C07
import TypstyleModel.Props.C08
import TypstyleModel.Props.C09
import TypstyleModel.Props.C10
import TypstyleModel.Props.C11
import TypstyleModel.Props.C12
import TypstyleModel.Props.C13
import TypstyleModel.Props.C14
import TypstyleModel.Props.C15
import TypstyleModel.Props.C16
import TypstyleModel.Props.C17
import TypstyleModel.Props.C18
import TypstyleModel.Props.C19
